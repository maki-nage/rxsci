import RxModel.Derived
/-!
# Internal boundaries of a pipeline: the mux trace between any two operators (C03, C13)

`Pipe.bounds path t` lists, for the input trace `t`, the flat trace at the output of every stage
(label `path/i`), at the head of every inner pipeline (`path/i/in`) and inside it, and inside
every tee branch (`path/i/b<k>/…`).  Because operators are synchronous and there is no feedback
from downstream to upstream, the trace at a boundary is the output of the prefix pipeline.
-/
namespace Rx

def flatRun {α β} (Q : MuxOp α β) (t : List (Ev α)) : List (Ev β) := (Q.run t).flatten

mutual
def Stage.bounds (path : String) : Stage → List (Ev Val) → List (String × List (Ev Val))
  | .prim _ _, _ => []
  | .wrap sp _ inner, t =>
    let it := sp.innerTrace sp.init t
    (path ++ "/in", it) :: inner.bounds path 0 it
  | .tee _ bs, t => bs.bounds path 0 t
def Pipe.bounds (path : String) (i : Nat) : Pipe → List (Ev Val) → List (String × List (Ev Val))
  | .nil, _ => []
  | .cons s rest, t =>
    let here := path ++ "/" ++ toString i
    let out := flatRun s.mux t
    s.bounds here t ++ [(here, out)] ++ rest.bounds path (i + 1) out
def Pipes.bounds (path : String) (b : Nat) : Pipes → List (Ev Val) → List (String × List (Ev Val))
  | .nil, _ => []
  | .cons p rest, t => p.bounds (path ++ "/b" ++ toString b) 0 t ++ rest.bounds path (b + 1) t
end

end Rx
