import RxModel.Derived
/-!
# Python tuples and lists as `Val`s (RxModel/Val.lean, Derived.lean)

What iteration (`elems`), indexing (`nth`), `len` and `append` (`toListAcc`) see of `Val.tup l` and `Val.lst l`.
-/
namespace Rx

theorem VList.toList_ofList (l : List Val) : (VList.ofList l).toList = l := by
  induction l with
  | nil => rfl
  | cons v l ih => exact congrArg (v :: ·) ih

theorem Val.elems_lst (q : List Val) : (Val.lst q).elems = some q := by
  simp only [Val.lst, Val.elems, VList.toList_ofList]

theorem Val.nth_lst (q : List Val) (i : Nat) : (Val.lst q).nth i = q.getD i .none := by
  simp only [Val.nth, Val.elems_lst]

theorem Val.nth_tup (l : List Val) (i : Nat) : (Val.tup l).nth i = l.getD i .none := by
  simp only [Val.nth, Val.tup, Val.elems, VList.toList_ofList]

theorem Val.nth_tup_zero (a : Val) (l : List Val) : (Val.tup (a :: l)).nth 0 = a := Val.nth_tup (a :: l) 0
theorem Val.nth_tup_one (a b : Val) (l : List Val) : (Val.tup (a :: b :: l)).nth 1 = b := Val.nth_tup (a :: b :: l) 1

theorem toListAcc_lst (q : List Val) (x : Val) : toListAcc (Val.lst q) x = .ok (Val.lst (q ++ [x])) := by
  rw [Val.lst, toListAcc, VList.toList_ofList]

theorem lenV_of_elemsE (x : Val) (xs : List Val) (h : x.elemsE = .ok xs) : x.lenV = .ok (.int xs.length) := by
  cases x with
  | tuple l =>
    cases h
    rfl
  | list l =>
    cases h
    rfl
  | _ => cases h

end Rx
