import RxModel.Compress
/-!
# The wrapper runs of RxModel/Compress.lean, a chunk at a time

One cons equation per run (`compressRun_cons`, `decompressRun_cons`), and what `payload` and `failed`
see of a stretch of items.
-/
namespace Rx

/-- what a wrapper does with the library's answer `r` to one chunk: the item and `rest` from the new state, or
`on_error` and nothing more.  A constant, so that the two runs and the closures that implement them
(Props/LinkC16.lean) meet in one form: a `match` in each statement would be a matcher of its own. -/
def stepRun {σ} (r : Except String (σ × Bytes)) (rest : σ → List WEv) : List WEv :=
  match r with
  | .ok (s, d) => .next d :: rest s
  | .error e => [.error e]

theorem compressRun_cons (K : StreamCodec) (c : K.C) (x : Bytes) (xs : List Bytes) :
    compressRun K c (x :: xs) = stepRun (K.compress c x) (compressRun K · xs) := by
  rw [compressRun]
  rcases K.compress c x with _ | ⟨_, _⟩ <;> rfl

theorem decompressRun_cons (K : StreamCodec) (skip : Bool) (d : K.D) (x : Bytes) (xs : List Bytes) :
    decompressRun K skip d (x :: xs) =
      stepRun (if skip && x.isEmpty then .ok (d, []) else K.decompress d x) (decompressRun K skip · xs) := by
  rw [decompressRun]
  split
  · rfl
  · rcases K.decompress d x with _ | ⟨_, _⟩ <;> rfl

theorem compressRun_length (K : StreamCodec) (c : K.C) (xs : List Bytes)
    (h : (compressRun K c xs).getLast? = some .completed) : (compressRun K c xs).length = xs.length + 2 := by
  induction xs generalizing c with
  | nil =>
    unfold compressRun at h ⊢
    split
    · rfl
    · next e he => rw [he] at h; cases h
  | cons x xs ih =>
    unfold compressRun at h ⊢
    split
    · next c' d hc =>
      rw [hc, List.getLast?_cons] at h
      cases hl : (compressRun K c' xs).getLast? with
      | none => rw [hl] at h; cases h
      | some e =>
        rw [hl] at h
        rw [List.length_cons, ih c' (hl.trans h)]
        rfl
    · next e he => rw [he] at h; cases h

theorem dfeed_cons {K : StreamCodec} {d d' : K.D} {x o : Bytes} {xs : List Bytes}
    (h : dfeed K d (x :: xs) = .ok (d', o)) :
    ∃ d1 o1 o2, K.decompress d x = .ok (d1, o1) ∧ dfeed K d1 xs = .ok (d', o2) ∧ o = o1 ++ o2 := by
  unfold dfeed at h
  split at h
  · cases h
  · split at h
    · cases h
    · cases h
      exact ⟨_, _, _, ‹_›, ‹_›, rfl⟩

theorem payload_next (outs : List Bytes) (t : List WEv) :
    payload (outs.map .next ++ t) = outs.flatten ++ payload t := by
  induction outs with
  | nil => rfl
  | cons o outs ih => simp [payload, ih]

theorem failed_next (outs : List Bytes) (t : List WEv) : failed (outs.map .next ++ t) = failed t := by
  induction outs with
  | nil => rfl
  | cons o outs ih => exact ih

theorem failed_append_next (out : List WEv) (d : Bytes) : failed (out ++ [WEv.next d]) = failed out := by
  simp only [failed, List.any_append, List.any_cons, List.any_nil, Bool.or_false]

theorem failed_append_error (out : List WEv) (e : String) : failed (out ++ [WEv.error e]) = true := by
  simp only [failed, List.any_append, List.any_cons, Bool.true_or, Bool.or_true]

end Rx
