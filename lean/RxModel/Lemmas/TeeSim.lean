import RxModel.Lemmas.Implements
import RxModel.Lemmas.Tee
/-!
# The inductive step of `impl_eq_ref` for `tee_map` around ARBITRARY branch operators

`teeMux mode … B` (every branch a mux operator, join state addressed by `key[0]*n + i`) equals the
keyed reference lift of `localTee mode … LB` on every clean well-formed trace (`tee_impl`), provided
every branch `Q_i` equals the keyed reference lift of `L_i` on such traces (the induction
hypothesis) and there is at least one branch.  Around the reference branches themselves only
`on_error` has to be absent (`tee_sim`).

The branches are first replaced by their keyed references: the tee is the join of what its branches
emit when run alone (`tee_run_eq`).  Then, key by key: the slice `key[0]*n ..< key[0]*n + n` of the join
arrays is the local join state (`JAt`), the branch states at the key are the local branch states (`BAt`),
and an event of one key leaves the slices and states of all other keys alone (`JFrame`, `BFrame`).

From `branches_item` on `resetAll = true`, the repaired completion handler: the simulation needs
that a completion empties the whole slice of its key (`TRel.clear`), or a key created later on the
same slot index would start from stale entries.
-/
namespace Rx

def refBranches {α β} : LBranches α β → Branches α β
  | .nil => .nil
  | .cons L r => .cons (refLift L) (refBranches r)

/-- with it the `lb.length` of `tee_sim` is the `b.length` that `teeMux` passes to the join for `b = refBranches lb` -/
theorem refBranches_length {α β} : ∀ (lb : LBranches α β), (refBranches lb).length = lb.length
  | .nil => rfl
  | .cons _ r => congrArg (· + 1) (refBranches_length r)

def BImpl {α β} (c : Bool) : Branches α β → LBranches α β → Prop
  | .nil, .nil => True
  | .cons Q r, .cons L lr => Impl c Q L ∧ BImpl c r lr
  | .nil, .cons _ _ => False
  | .cons _ _, .nil => False

theorem BImpl.length {α β} {c : Bool} : ∀ (b : Branches α β) (lb : LBranches α β), BImpl c b lb → b.length = lb.length
  | .nil, .nil, _ => rfl
  | .cons _ r, .cons _ lr, h => congrArg (· + 1) (BImpl.length r lr h.2)
  | .nil, .cons _ _, h => h.elim
  | .cons _ _, .nil, h => h.elim

theorem BImpl.runAlone {α β} {c : Bool} {t : List (Ev α)} (ht : WF t) (hc : c = true → CleanTr t) :
    ∀ (b : Branches α β) (lb : LBranches α β), BImpl c b lb →
      b.runAlone b.init t = (refBranches lb).runAlone (refBranches lb).init t
  | .nil, .nil, _ => rfl
  | .cons Q r, .cons _ lr, h =>
    (Branches.runAlone_cons Q r t _ _).trans
      ((congr (congrArg _ (h.1 t ht hc)) (BImpl.runAlone ht hc r lr h.2)).trans (Branches.runAlone_cons _ _ t _ _).symm)
  | .nil, .cons _ _, h => h.elim
  | .cons _ _, .nil, h => h.elim

def JAt {β} (n : Nat) (jst : JoinSt β) (k : Key) (lj : LJoinSt β) : Prop :=
  lj.queue = sliceQ jst.queue (k.idx * n) n ∧ lj.has = sliceH jst.has (k.idx * n) n

def AllClear {β} (jst : JoinSt β) : Prop := ∀ j, jst.queue j = none ∧ jst.has j = false

theorem JAt.set {β} {n : Nat} {jst : JoinSt β} {k : Key} {lj : LJoinSt β} (h : JAt n jst k lj) (i : Nat)
    (a : Option β) (b : Bool) :
    JAt n ⟨fun j => if j = k.idx * n + i then a else jst.queue j, fun j => if j = k.idx * n + i then b else jst.has j⟩ k
      ⟨lj.queue.set i a, lj.has.set i b⟩ :=
  ⟨h.1 ▸ (sliceQ_set ..).symm, h.2 ▸ (sliceH_set ..).symm⟩

theorem JAt.clear {β} {n : Nat} {jst : JoinSt β} {k : Key} {lj : LJoinSt β} (h : JAt n jst k lj) :
    JAt n ⟨clearQ jst.queue (k.idx * n) n, clearHas jst.has (k.idx * n) n⟩ k
      ⟨lj.queue.map fun _ => none, lj.has.map fun _ => false⟩ :=
  ⟨h.1 ▸ (sliceQ_clear _ _ _).symm, h.2 ▸ (sliceH_clear _ _ _).symm⟩

section join
variable {β γ : Type} (mode : Join) {n : Nat} (mk : List (Option β) → γ) (inj : β → γ) (ra : Bool) {k : Key}

theorem join_item (i : Nat) {jst : JoinSt β} {lj : LJoinSt β} (h : JAt n jst k lj) (o : LOut β) :
    (joinStep mode n mk inj ra jst i (liftOut k o)).2 = (lJoinNext mode mk inj lj i o).2.map (liftOut k) ∧
    JAt n (joinStep mode n mk inj ra jst i (liftOut k o)).1 k (lJoinNext mode mk inj lj i o).1 := by
  cases o with
  | err e => exact ⟨rfl, h⟩
  | fatal e => exact ⟨rfl, h⟩
  | item x =>
    have hs := h.set i (some x) true
    cases mode with
    | merge => exact ⟨rfl, h⟩
    | combine => exact ⟨congrArg (fun q => [Ev.next k (mk q)]) hs.1.symm, hs⟩
    | zip =>
      have hc : allHas (fun j => if j = k.idx * n + i then true else jst.has j) (k.idx * n) n =
          (lj.has.set i true).all id := by rw [allHas_eq, ← hs.2]
      by_cases hb : (lj.has.set i true).all id = true
      · rw [show joinStep .zip n mk inj ra jst i (liftOut k (.item x)) = _ from if_pos (hc.trans hb),
          show lJoinNext .zip mk inj lj i (.item x) = _ from if_pos hb]
        exact ⟨congrArg (fun q => [Ev.next k (mk q)]) hs.1.symm, hs.clear⟩
      · rw [show joinStep .zip n mk inj ra jst i (liftOut k (.item x)) = _ from if_neg fun h => hb (hc ▸ h),
          show lJoinNext .zip mk inj lj i (.item x) = _ from if_neg hb]
        exact ⟨rfl, hs⟩

theorem feed_sim {i : Nat} (hi : i < n) : ∀ (outs : List (LOut β)) (jst : JoinSt β) (lj : LJoinSt β), JAt n jst k lj →
    (feedJoin mode n mk inj ra i jst (outs.map (liftOut k))).2 = (feedLJoin mode mk inj i lj outs).2.map (liftOut k) ∧
    JAt n (feedJoin mode n mk inj ra i jst (outs.map (liftOut k))).1 k (feedLJoin mode mk inj i lj outs).1 ∧
    JFrame n k jst (feedJoin mode n mk inj ra i jst (outs.map (liftOut k))).1 := by
  intro outs
  induction outs with
  | nil => intro jst lj h; exact ⟨rfl, h, .refl⟩
  | cons o os ih =>
    intro jst lj h
    obtain ⟨a1, a2⟩ := join_item mode mk inj ra i h o
    obtain ⟨b1, b2, b3⟩ := ih _ _ a2
    simp only [List.map_cons, feedJoin, feedLJoin, List.map_append]
    exact ⟨by rw [a1, b1], b2, (joinStep_frame mode n mk inj ra i k hi jst o).trans b3⟩

end join

set_option linter.unusedVariables false in
def BAt {α β} : (r : LBranches α β) → (refBranches r).St → Key → r.St → Prop
  | .nil, _, _, _ => True
  | .cons L r, s, k, ls => s.1 k = some ls.1 ∧ BAt r s.2 k ls.2

set_option linter.unusedVariables false in
def BNone {α β} : (r : LBranches α β) → (refBranches r).St → Key → Prop
  | .nil, _, _ => True
  | .cons L r, s, k => s.1 k = none ∧ BNone r s.2 k

def BFrame {α β} (r : LBranches α β) (k : Key) (s s' : (refBranches r).St) : Prop :=
  ∀ k2, k2 ≠ k → (∀ ls, BAt r s k2 ls → BAt r s' k2 ls) ∧ (BNone r s k2 → BNone r s' k2)

theorem BFrame.refl {α β} {r : LBranches α β} {s : (refBranches r).St} {k : Key} : BFrame r k s s :=
  fun _ _ => ⟨fun _ h => h, fun h => h⟩

theorem BFrame.cons {α β} {L : LocalOp α β} {r : LBranches α β} {s s' : (refBranches (.cons L r)).St} {k : Key}
    (h1 : ∀ k2, k2 ≠ k → s'.1 k2 = s.1 k2) (h2 : BFrame r k s.2 s'.2) : BFrame (.cons L r) k s s' :=
  fun k2 hk => ⟨fun ls hb => ⟨(h1 k2 hk).trans hb.1, (h2 k2 hk).1 ls.2 hb.2⟩,
    fun hb => ⟨(h1 k2 hk).trans hb.1, (h2 k2 hk).2 hb.2⟩⟩

section branches
variable {α β γ : Type} (mode : Join) {n : Nat} (mk : List (Option β) → γ) (inj : β → γ)

theorem LBranches.cons_len {i n : Nat} {L : LocalOp α β} {r : LBranches α β} (h : i + (LBranches.cons L r).length = n) :
    i < n ∧ i + 1 + r.length = n :=
  ⟨h ▸ Nat.lt_add_of_pos_right (Nat.succ_pos _), (Nat.add_right_comm i 1 r.length).trans h⟩

/-- the `match` of `LBranches.step`, named (`LBranches.step_cons`), so that `branches_item` treats an item and
a mux error at once -/
def LIn.act {α β} (L : LocalOp α β) (s : L.σ) : LIn α → L.σ × List (LOut β)
  | .item v => L.next s v
  | .err e => L.onErr s e
  | .fin => (s, L.fin s)

theorem LBranches.step_cons (L : LocalOp α β) (r : LBranches α β) (i : Nat) (s : (LBranches.cons L r).St)
    (j : LJoinSt β) (x : LIn α) :
    LBranches.step mode mk inj (.cons L r) i s j x =
      (let a := LIn.act L s.1 x
       let jj := feedLJoin mode mk inj i j a.2
       let rr := LBranches.step mode mk inj r (i + 1) s.2 jj.1 x
       ((a.1, rr.1), rr.2.1, jj.2 ++ rr.2.2)) := by
  cases x <;> rfl

/-- an item or a mux error of key `k` through all branches -/
theorem branches_item {k : Key} {x : LIn α} {e : Ev α}
    (hx : (∃ v, x = .item v ∧ e = .next k v) ∨ (∃ er, x = .err er ∧ e = .err k er)) :
    ∀ (r : LBranches α β) (i : Nat), i + r.length = n → ∀ (s : (refBranches r).St) (ls : r.St) (jst : JoinSt β) (lj : LJoinSt β),
      BAt r s k ls → JAt n jst k lj →
      let R := Branches.step mode n mk inj true (refBranches r) i s jst e
      let Lr := LBranches.step mode mk inj r i ls lj x
      R.2.2 = Lr.2.2.map (liftOut k) ∧ BAt r R.1 k Lr.1 ∧ JAt n R.2.1 k Lr.2.1 ∧ BFrame r k s R.1 ∧
        JFrame n k jst R.2.1 := by
  intro r
  induction r with
  | nil => intro i _ s ls jst lj _ hj; exact ⟨rfl, trivial, hj, .refl, .refl⟩
  | cons L r ih =>
    intro i hlen s ls jst lj hb hj
    obtain ⟨hi, hlen'⟩ := LBranches.cons_len hlen
    obtain ⟨hb1, hb2⟩ := hb
    have href : refStep L s.1 e = (upd s.1 k (some (LIn.act L ls.1 x).1), (LIn.act L ls.1 x).2.map (liftOut k)) := by
      rcases hx with ⟨v, rfl, rfl⟩ | ⟨er, rfl, rfl⟩
      · exact refStep_next_some L hb1 v
      · exact refStep_err_some L hb1 er
    obtain ⟨f1, f2, f3⟩ := feed_sim mode mk inj true hi (LIn.act L ls.1 x).2 jst lj hj
    obtain ⟨g1, g2, g3, g4, g5⟩ := ih (i + 1) hlen' s.2 ls.2 _ _ hb2 f2
    simp only [refBranches, Branches.step, refLift, href, LBranches.step_cons]
    exact ⟨by rw [List.map_append, ← f1, ← g1], ⟨if_pos rfl, g2⟩, g3, .cons (fun _ h => if_neg h) g4, f3.trans g5⟩

theorem branches_create (n : Nat) (k : Key) :
    ∀ (r : LBranches α β) (i : Nat) (s : (refBranches r).St) (jst : JoinSt β),
      let R := Branches.step (α := α) mode n mk inj true (refBranches r) i s jst (.create k)
      R.2.2 = (if i = 0 ∧ 0 < r.length then [Ev.create k] else []) ∧ BAt r R.1 k r.init ∧ R.2.1 = jst ∧ BFrame r k s R.1 := by
  intro r
  induction r with
  | nil => intro i s jst; exact ⟨(if_neg fun h => Nat.lt_irrefl 0 h.2).symm, trivial, rfl, .refl⟩
  | cons L r ih =>
    intro i s jst
    obtain ⟨g1, g2, g3, g4⟩ := ih (i + 1) s.2 jst
    simp only [refBranches, Branches.step, refLift, refStep, feedJoin, joinStep, List.append_nil]
    refine ⟨?_, ⟨if_pos rfl, g2⟩, g3, .cons (fun _ h => if_neg h) g4⟩
    rw [g1, if_neg (c := i + 1 = 0 ∧ 0 < r.length) fun h => Nat.succ_ne_zero i h.1, List.append_nil]
    by_cases hi : i = 0
    · rw [if_pos hi, if_pos ⟨hi, Nat.succ_pos _⟩]
    · rw [if_neg hi, if_neg fun h => hi h.1]

theorem branches_done {k : Key} :
    ∀ (r : LBranches α β) (i : Nat), 0 < r.length → i + r.length = n → ∀ (s : (refBranches r).St) (ls : r.St)
      (jst : JoinSt β) (lj : LJoinSt β), BAt r s k ls → JAt n jst k lj →
      let R := Branches.step (α := α) mode n mk inj true (refBranches r) i s jst (.done k)
      let Lr := LBranches.step mode mk inj r i ls lj .fin
      R.2.2 = Lr.2.2.map (liftOut k) ++ [Ev.done k] ∧ BNone r R.1 k ∧ BFrame r k s R.1 ∧
        JFrame n k jst R.2.1 ∧ (mode ≠ .merge → BlockClear n k.idx R.2.1) := by
  intro r
  induction r with
  | nil => intro _ h; exact absurd h (Nat.lt_irrefl 0)
  | cons L r ih =>
    intro i _ hlen s ls jst lj hb hj
    obtain ⟨hi, hlen'⟩ := LBranches.cons_len hlen
    obtain ⟨hb1, hb2⟩ := hb
    obtain ⟨f1, f2, f3⟩ := feed_sim mode mk inj true hi (L.fin ls.1) jst lj hj
    -- the join sees the completion outputs, then the `OnCompletedMux` of this branch
    simp only [refBranches, Branches.step, refLift, refStep_done_some L hb1, feedJoin_append, feedJoin, List.append_nil,
      LBranches.step_cons, LIn.act]
    cases r with
    | nil =>
      -- last branch: `i = n - 1`
      obtain ⟨d1, d2, d3⟩ := joinStep_done_last mode n mk inj i k (hlen ▸ (Nat.add_sub_cancel ..).symm)
        (feedJoin mode n mk inj true i jst ((L.fin ls.1).map (liftOut k))).1
      simp only [d1, refBranches, Branches.step, LBranches.step, f1]
      exact ⟨by rw [List.append_nil, List.append_nil], ⟨if_pos rfl, trivial⟩, .cons (fun _ h => if_neg h) .refl,
        f3.trans d2, d3⟩
    | cons L2 r2 =>
      obtain ⟨g1, g2, g3, g4, g5⟩ := ih (i + 1) (Nat.succ_pos _) hlen' s.2 ls.2 _ _ hb2 f2
      simp only [joinStep_done_not_last mode n mk inj true i k (Nat.ne_of_lt (Nat.lt_sub_of_add_lt (LBranches.cons_len hlen').1)),
        List.append_nil, g1, f1]
      exact ⟨by rw [List.map_append, List.append_assoc], ⟨if_pos rfl, g2⟩, .cons (fun _ h => if_neg h) g3,
        f3.trans g4, g5⟩

end branches

/-- `clear` (`BlockClear lb.length idx jst`, written out): the slice of a slot index that no live key
uses is empty, so that a key created on it later starts from the empty local join state (key reuse).
`merge`: the merge join never writes the arrays, which keeps `clear` although a completion resets
nothing in that mode. -/
structure TRel {α β} (mode : Join) (lb : LBranches α β) (live : List Key) (bs : (refBranches lb).St) (jst : JoinSt β)
    (ws : Key → Option (lb.St × LJoinSt β)) : Prop where
  live_ : ∀ k ∈ live, ∃ ls lj, ws k = some (ls, lj) ∧ BAt lb bs k ls ∧ JAt lb.length jst k lj
  dead : ∀ k, k ∉ live → ws k = none ∧ BNone lb bs k
  clear : ∀ idx, (∀ k ∈ live, k.idx ≠ idx) → ∀ j, idx * lb.length ≤ j → j < idx * lb.length + lb.length →
    jst.queue j = none ∧ jst.has j = false
  merge : mode = .merge → AllClear jst

theorem outside_of_idx_ne (n : Nat) (k : Key) {idx : Nat} (h : idx ≠ k.idx) (j : Nat)
    (h1 : idx * n ≤ j) (h2 : j < idx * n + n) : Outside n k j :=
  fun hk => h (block_inj ⟨h1, h2⟩ hk)

theorem JAt.frame {β} {n : Nat} {k k2 : Key} {jst jst' : JoinSt β} {lj : LJoinSt β} (hj : JAt n jst k2 lj)
    (hf : JFrame n k jst jst') (h : k2.idx ≠ k.idx) : JAt n jst' k2 lj := by
  have ho : ∀ i ∈ List.range n, Outside n k (k2.idx * n + i) := fun i hi =>
    outside_of_idx_ne n k h _ (Nat.le_add_right ..) (Nat.add_lt_add_left (List.mem_range.mp hi) _)
  exact ⟨hj.1.trans (List.map_congr_left fun i hi => ((hf _ (ho i hi)).1).symm),
    hj.2.trans (List.map_congr_left fun i hi => ((hf _ (ho i hi)).2).symm)⟩

theorem JAt.of_clear {β} {n : Nat} {jst : JoinSt β} {k : Key} (h : BlockClear n k.idx jst) :
    JAt n jst k ⟨List.replicate n none, List.replicate n false⟩ :=
  ⟨(slice_const _ _ n none fun _ hm => (h _ (Nat.le_add_right ..) (Nat.add_lt_add_left hm _)).1).symm,
   (slice_const _ _ n false fun _ hm => (h _ (Nat.le_add_right ..) (Nat.add_lt_add_left hm _)).2).symm⟩

/-- an event of key `k` re-establishes `TRel` from what it does at `k`: the branch states and the
slices of all other keys are untouched -/
theorem TRel.update {α β} {mode : Join} {lb : LBranches α β} {live live' : List Key} {bs bs' : (refBranches lb).St}
    {jst jst' : JoinSt β} {ws : Key → Option (lb.St × LJoinSt β)} (h : TRel mode lb live bs jst ws)
    (k : Key) (v : Option (lb.St × LJoinSt β))
    (hl : ∀ k0, k0 ≠ k → (k0 ∈ live' ↔ k0 ∈ live))
    (hidx : ∀ k0 ∈ live, k0 ≠ k → k0.idx ≠ k.idx)
    (hb : BFrame lb k bs bs') (hj : JFrame lb.length k jst jst') (hm : mode = .merge → AllClear jst')
    (hin : k ∈ live' → ∃ ls lj, v = some (ls, lj) ∧ BAt lb bs' k ls ∧ JAt lb.length jst' k lj)
    (hout : k ∉ live' → v = none ∧ BNone lb bs' k ∧ BlockClear lb.length k.idx jst') :
    TRel mode lb live' bs' jst' (upd ws k v) := by
  refine ⟨fun k0 hk0 => ?_, fun k0 hk0 => ?_, fun idx hidx' j h1 h2 => ?_, hm⟩
  · by_cases h0 : k0 = k
    · subst h0
      obtain ⟨ls, lj, rfl, h2, h3⟩ := hin hk0
      exact ⟨ls, lj, if_pos rfl, h2, h3⟩
    · have hk0' := (hl k0 h0).mp hk0
      obtain ⟨ls, lj, e1, e2, e3⟩ := h.live_ k0 hk0'
      exact ⟨ls, lj, (if_neg h0).trans e1, (hb k0 h0).1 ls e2,
        e3.frame hj (hidx k0 hk0' h0)⟩
  · by_cases h0 : k0 = k
    · subst h0; exact ⟨(if_pos rfl).trans (hout hk0).1, (hout hk0).2.1⟩
    · have hd := h.dead k0 fun hm => hk0 ((hl k0 h0).mpr hm)
      exact ⟨(if_neg h0).trans hd.1, (hb k0 h0).2 hd.2⟩
  · by_cases hne : idx = k.idx
    · subst hne
      exact (hout fun hk => hidx' k hk rfl).2.2 j h1 h2
    · have hout' := hj j (outside_of_idx_ne _ k hne j h1 h2)
      rw [hout'.1, hout'.2]
      refine h.clear idx (fun k0 hk0 he => ?_) j h1 h2
      have h0 : k0 ≠ k := fun e => hne (e ▸ he.symm)
      exact hidx' k0 ((hl k0 h0).mpr hk0) he

section step
variable {α β γ : Type} {mode : Join} (mk : List (Option β) → γ) (inj : β → γ) {lb : LBranches α β} {live live' : List Key}
  {bs : (refBranches lb).St} {jst : JoinSt β} {ws : Key → Option (lb.St × LJoinSt β)}

theorem TRel.merge_step (hrel : TRel mode lb live bs jst ws) (e : Ev α) :
    mode = .merge → AllClear (Branches.step mode lb.length mk inj true (refBranches lb) 0 bs jst e).2.1 :=
  fun h => by subst h; rw [Branches.step_merge]; exact hrel.merge rfl

theorem tee_item (hrel : TRel mode lb live bs jst ws) (hd : IdxDistinct live) (k : Key) (hk : k ∈ live) (x : LIn α) (e : Ev α)
    (hx : (∃ v, x = .item v ∧ e = .next k v) ∨ (∃ er, x = .err er ∧ e = .err k er)) :
    let R := Branches.step mode lb.length mk inj true (refBranches lb) 0 bs jst e
    R.2.2 = (refStep (localTee mode mk inj lb) ws e).2 ∧
      TRel mode lb live R.1 R.2.1 (refStep (localTee mode mk inj lb) ws e).1 := by
  obtain ⟨ls, lj, f1, f2, f3⟩ := hrel.live_ k hk
  obtain ⟨g1, g2, g3, g4, g5⟩ := branches_item mode mk inj hx lb 0 (Nat.zero_add _) bs ls jst lj f2 f3
  have href : refStep (localTee mode mk inj lb) ws e =
      (upd ws k (some ((LBranches.step mode mk inj lb 0 ls lj x).1, (LBranches.step mode mk inj lb 0 ls lj x).2.1)),
        (LBranches.step mode mk inj lb 0 ls lj x).2.2.map (liftOut k)) := by
    rcases hx with ⟨v, rfl, rfl⟩ | ⟨er, rfl, rfl⟩
    · exact refStep_next_some (localTee mode mk inj lb) f1 v
    · exact refStep_err_some (localTee mode mk inj lb) f1 er
  rw [href]
  exact ⟨g1, hrel.update k _ (fun _ _ => Iff.rfl) (fun k0 hk0 => hd.idx_ne hk0 hk) g4 g5
    (hrel.merge_step mk inj e) (fun _ => ⟨_, _, rfl, g2, g3⟩) (fun h => absurd hk h)⟩

theorem tee_step (hn : 0 < lb.length) (hd : IdxDistinct live) (hrel : TRel mode lb live bs jst ws) {e : Ev α}
    (hwf : wfStep live e = some live') (hnf : e.isFatal = false) :
    let R := Branches.step mode lb.length mk inj true (refBranches lb) 0 bs jst e
    R.2.2 = (refStep (localTee mode mk inj lb) ws e).2 ∧
      TRel mode lb live' R.1 R.2.1 (refStep (localTee mode mk inj lb) ws e).1 := by
  have hm := hrel.merge_step mk inj e
  cases e with
  | fatal x => cases hnf
  | next k x =>
    obtain ⟨hk, rfl⟩ := wfStep_next.mp hwf
    exact tee_item mk inj hrel hd k hk (.item x) _ (.inl ⟨x, rfl, rfl⟩)
  | err k x =>
    obtain ⟨hk, rfl⟩ := wfStep_err.mp hwf
    exact tee_item mk inj hrel hd k hk (.err x) _ (.inr ⟨x, rfl, rfl⟩)
  | create k =>
    obtain ⟨hfresh, rfl⟩ := wfStep_create.mp hwf
    obtain ⟨g1, g2, g3, g4⟩ := branches_create mode mk inj lb.length k lb 0 bs jst
    -- no live key has the slot index of `k`, so its slice is empty (`TRel.clear`): the empty local join state
    exact ⟨by rw [g1, if_pos ⟨rfl, hn⟩]; rfl,
      hrel.update k _ (fun _ h0 => List.mem_cons.trans (or_iff_right h0)) (fun k0 hk0 _ => hfresh k0 hk0) g4
        (by rw [g3]; exact .refl) hm
        (fun _ => ⟨_, _, rfl, g2, by rw [g3]; exact JAt.of_clear (hrel.clear k.idx hfresh)⟩)
        (fun h => absurd List.mem_cons_self h)⟩
  | done k =>
    obtain ⟨hk, rfl⟩ := wfStep_done.mp hwf
    obtain ⟨ls, lj, f1, f2, f3⟩ := hrel.live_ k hk
    obtain ⟨g1, g2, g3, g4, g5⟩ := branches_done mode mk inj lb 0 hn (Nat.zero_add _) bs ls jst lj f2 f3
    rw [refStep_done_some (localTee mode mk inj lb) f1]
    refine ⟨g1,
      hrel.update k _ (fun _ h0 => List.mem_erase_of_ne h0)
        (fun k0 hk0 => hd.idx_ne hk0 hk) g3 g4 hm
        (fun h => absurd h hd.nodup.not_mem_erase) (fun _ => ⟨rfl, g2, ?_⟩)⟩
    -- the slice of `k` is empty again: the merge join never wrote it, the other two have just reset it
    by_cases hmm : mode = .merge
    · exact fun j _ _ => hm hmm j
    · exact g5 hmm

end step

/-- the tee around the reference branches runs as the reference lift of the local tee, from any states that
`TRel` relates: the `tee` counterpart of `comp_ref` / `wrap_ref` -/
theorem tee_sim {α β γ} (mode : Join) (mk : List (Option β) → γ) (inj : β → γ) (lb : LBranches α β) (hn : 0 < lb.length) :
    ∀ (t : List (Ev α)) (live : List Key) (bs : (refBranches lb).St) (jst : JoinSt β)
      (ws : Key → Option (lb.St × LJoinSt β)),
      wfFrom live t = true → NoFatal t → IdxDistinct live → TRel mode lb live bs jst ws →
      runSteps (fun (s : (refBranches lb).St × JoinSt β) e =>
          let r := Branches.step mode lb.length mk inj true (refBranches lb) 0 s.1 s.2 e
          ((r.1, r.2.1), r.2.2)) (bs, jst) t =
        runSteps (refStep (localTee mode mk inj lb)) ws t :=
  fun t _ _ _ _ hwf hnf hd hrel =>
    runSteps_eq_of_sim (step' := refStep (localTee mode mk inj lb))
      (fun live s ws => TRel mode lb live s.1 s.2 ws) (fun e => e.isFatal = false)
      (fun hd h hwf hnf => tee_step mk inj hn hd h hwf hnf) t hd hrel hwf hnf

theorem BNone.init {α β} : ∀ (lb : LBranches α β) (k : Key), BNone lb (refBranches lb).init k
  | .nil, _ => trivial
  | .cons _ r, k => ⟨rfl, BNone.init r k⟩

/-- **the inductive step of `impl_eq_ref` for `tee_map` around arbitrary branches** -/
theorem tee_impl {α β γ} (mode : Join) (mk : List (Option β) → γ) (inj : β → γ) (c : Bool)
    (b : Branches α β) (lb : LBranches α β) (h : BImpl c b lb) (hn : 0 < lb.length) :
    Impl true (teeMux mode mk inj true b) (localTee mode mk inj lb) := by
  intro t ht hcl
  have hclean := hcl rfl
  refine (tee_run_eq mode b.length mk inj true b t _ _).trans ?_
  rw [h.runAlone ht fun _ => hclean, h.length, ← tee_run_eq]
  exact tee_sim mode mk inj lb hn t [] (refBranches lb).init ⟨fun _ => none, fun _ => false⟩ (fun _ => none)
    ht hclean.2 List.Pairwise.nil
    ⟨fun _ hk => (nomatch hk), fun k _ => ⟨rfl, BNone.init lb k⟩, fun _ _ _ _ _ => ⟨rfl, rfl⟩, fun _ _ => ⟨rfl, rfl⟩⟩

end Rx
