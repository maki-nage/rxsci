import RxModel.Lemmas.SimSeq
import RxModel.Lemmas.Roll
/-!
# `SplitSim` for `roll` (window ≠ stride: the ring of `density` slots per parent slot)

The implementation keeps ring slot `o` of parent `k` in array position `k[0]*density + o` and names
the window living there `(k[0]*density + o, k)`.  The local description keeps the ring of one
parent.  The ring invariant of `Lemmas/Roll.lean` (a slot is free when the next window opens in it)
is what makes a new window's key fresh.  `rollSim`, for `rollSp` (which is `_roll_count` when window = stride, the
ring otherwise), joins `rollRingSim` with `rollCountSim` of Lemmas/SimSeq.lean.
-/
namespace Rx

/-- naming of the open windows of parent `k` -/
def ringNm (d : Nat) (k : Key) (sl : Slots) : Nat → Option Key :=
  fun o => match sl o with | some _ => some (wk d k o) | none => none

theorem ringNm_apply (d : Nat) (k : Key) (sl : Slots) (o : Nat) : ringNm d k sl o = (sl o).map fun _ => wk d k o := by
  unfold ringNm; cases sl o <;> rfl

/-- the ring of parent `k` inside the global slot array -/
def RingAt (d : Nat) (k : Key) (ws : Nat → Option Nat) (sl : Slots) : Prop :=
  ∀ o, o < d → ws (k.idx * d + o) = sl o

theorem ringNm_upd (d : Nat) (k : Key) (sl : Slots) (o : Nat) (v : Option Nat) :
    ringNm d k (upd sl o v) = upd (ringNm d k sl) o (v.map fun _ => wk d k o) := by
  funext j
  by_cases h : j = o
  · rw [h, ringNm_apply, upd_same, upd_same]
  · rw [ringNm_apply, upd_of_ne _ h, upd_of_ne _ h, ringNm_apply]

theorem RingAt.upd {d : Nat} {k : Key} {ws : Nat → Option Nat} {sl : Slots} {o : Nat} {v : Option Nat}
    (h : RingAt d k ws sl) (ho : o < d) : RingAt d k (Rx.upd ws (k.idx * d + o) v) (Rx.upd sl o v) := by
  intro o' ho'
  by_cases hj : o' = o
  · subst hj; rw [upd_same, upd_same]
  · rw [upd_of_ne _ hj, upd_of_ne _ (fun e => hj (Nat.add_left_cancel e))]; exact h o' ho'

/-- `ws'` differs from `ws` at most inside the ring of parent `k`, the block of the slots `i` with `i / d = k[0]` -/
def RingFrame (d : Nat) (k : Key) (ws ws' : Nat → Option Nat) : Prop :=
  ∀ i, i / d ≠ k.idx → ws' i = ws i

theorem RingFrame.of_upd {d : Nat} {k : Key} {ws ws' : Nat → Option Nat} {o : Nat} {v : Option Nat} (ho : o < d)
    (h : RingFrame d k (upd ws (k.idx * d + o) v) ws') : RingFrame d k ws ws' :=
  fun i hi => (h i hi).trans (upd_of_ne _ (fun e : i = k.idx * d + o => hi (e ▸ slot_div k.idx d o ho)) v)

theorem RingAt.frame {d : Nat} {k k0 : Key} {ws ws' : Nat → Option Nat} {sl : Slots} (h : RingAt d k0 ws sl)
    (hf : RingFrame d k ws ws') (hidx : k0.idx ≠ k.idx) : RingAt d k0 ws' sl :=
  fun o ho => by rw [hf _ fun e => hidx ((slot_div k0.idx d o ho).symm.trans e)]; exact h o ho

/-- the delivery loop of `on_next` with `f` passes left, from offset `o`: the inner events are the local commands
under the naming, and afterwards ring, naming and the rest of the slot array are again as `RingAt`, `ringNm` and
`RingFrame` say -/
theorem deliver_corr {α} (w : Nat) (x : α) (n : Nat) {d f o : Nat} {k : Key} {ws : Nat → Option Nat} {sl : Slots}
    {nm : Naming} (hf : o + f ≤ d) (h1 : RingAt d k ws sl) (h2 : nm k = ringNm d k sl) :
    ∃ nm', Tr k nm (deliver w n x f o sl).2 (foldD (dDeliver w d k x n) (List.range' o f) ws).2 nm' ∧
      RingAt d k (foldD (dDeliver w d k x n) (List.range' o f) ws).1 (deliver w n x f o sl).1 ∧
      nm' k = ringNm d k (deliver w n x f o sl).1 ∧
      RingFrame d k ws (foldD (dDeliver w d k x n) (List.range' o f) ws).1 := by
  induction f generalizing o ws sl nm with
  | zero => exact ⟨nm, .nil _, h1, h2, fun _ _ => rfl⟩
  | succ f ih =>
    have ho : o < d := Nat.lt_of_lt_of_le (Nat.lt_add_of_pos_right (Nat.succ_pos f)) hf
    have hf' : o + 1 + f ≤ d := Nat.add_right_comm o 1 f ▸ hf
    rw [List.range'_succ, foldD, deliver, dDeliver, h1 o ho]
    cases hsl : sl o with
    | none => exact ih hf' h1 h2
    | some n0 =>
      have hnm : nm k o = some (wk d k o) := by rw [h2, ringNm_apply, hsl]; rfl
      by_cases hc : n - n0 + 1 = w
      · simp only [hc, if_true]
        obtain ⟨nm', t1, t2, t3, t4⟩ := ih (nm := updNm nm k o none) hf' (h1.upd (v := none) ho)
          (by rw [updNm_row, h2, ringNm_upd]; rfl)
        exact ⟨nm', .itm nm _ _ x _ _ nm' hnm (.cls nm _ _ _ _ nm' hnm t1), t2, t3, t4.of_upd ho⟩
      · simp only [hc, if_false]
        obtain ⟨nm', t1, t2, t3, t4⟩ := ih hf' h1 h2
        exact ⟨nm', .itm nm _ _ x _ _ nm' hnm t1, t2, t3, t4⟩

/-- the flush along any list of distinct offsets: afterwards exactly the visited slots have no name -/
theorem flush_corr {α} (d : Nat) (k : Key) (sl : Slots) {offs : List Nat} (ws : Nat → Option Nat) (nm : Naming)
    (hnd : offs.Nodup) (hlt : ∀ off ∈ offs, off < d)
    (h : ∀ off ∈ offs, ws (k.idx * d + off) = sl off ∧ nm k off = ringNm d k sl off) :
    ∃ nm', Tr (α := α) k nm (offs.filterMap fun off => match sl off with | some _ => some (Cmd.cls off) | none => none)
        (foldD (flushAt d k fun ki => Ev.done ki) offs ws).2 nm' ∧
      (∀ j, nm' k j = if j ∈ offs then none else nm k j) ∧
      RingFrame d k ws (foldD (flushAt d k fun ki => Ev.done (α := α) ki) offs ws).1 := by
  induction offs generalizing ws nm with
  | nil => exact ⟨nm, .nil _, fun _ => (if_neg List.not_mem_nil).symm, fun _ _ => rfl⟩
  | cons off r ih =>
    obtain ⟨hnot, hnd'⟩ := List.nodup_cons.mp hnd
    obtain ⟨hws, hnm⟩ := h off List.mem_cons_self
    have hoff := hlt off List.mem_cons_self
    have hlt' : ∀ o ∈ r, o < d := fun o ho => hlt o (List.mem_cons_of_mem _ ho)
    simp only [foldD, flushAt, List.filterMap_cons, hws]
    cases hsl : sl off with
    | none =>
      obtain ⟨nm', t1, t2, t3⟩ := ih ws nm hnd' hlt' (fun o ho => h o (List.mem_cons_of_mem _ ho))
      refine ⟨nm', t1, fun j => ?_, t3⟩
      rw [t2 j]
      by_cases hj : j = off
      · subst hj; rw [if_neg hnot, if_pos List.mem_cons_self, hnm, ringNm_apply, hsl]; rfl
      · simp only [List.mem_cons, hj, false_or]
    | some v =>
      have hnm' : nm k off = some (wk d k off) := by rw [hnm, ringNm_apply, hsl]; rfl
      obtain ⟨nm', t1, t2, t3⟩ := ih (upd ws (k.idx * d + off) none) (updNm nm k off none) hnd' hlt' (fun o ho => by
        have hne : o ≠ off := fun e => hnot (e ▸ ho)
        obtain ⟨a1, a2⟩ := h o (List.mem_cons_of_mem _ ho)
        exact ⟨by rw [upd_of_ne _ (fun e => hne (Nat.add_left_cancel e))]; exact a1, by rw [updNm_row, upd_of_ne _ hne]; exact a2⟩)
      refine ⟨nm', .cls nm off _ _ _ nm' hnm' t1, fun j => ?_, t3.of_upd hoff⟩
      rw [t2 j, updNm_row]
      by_cases hj : j = off
      · subst hj; rw [if_neg hnot, if_pos List.mem_cons_self, upd_same]
      · simp only [List.mem_cons, hj, false_or, upd_of_ne _ hj]

structure RingInv {α : Type} (w s : Nat) (live : List Key) (st : RollSt) (T : Key → Option (Nat × Slots)) (nm : Naming) : Prop where
  live_ : ∀ k ∈ live, ∃ n sl, st.n k.idx = some n ∧ T k = some (n, sl) ∧
    (∃ (xs : List α) (ob : Obs α) (c : Nat), RInv w s (density w s) xs (n, sl) ob c) ∧
    RingAt (density w s) k st.w sl ∧ nm k = ringNm (density w s) k sl
  dead : ∀ k, k ∉ live → ∀ j, nm k j = none

/-- what `RingInv` says of one live parent.  `RingInv` is the form `ringInv_wf` (Props/LinkC05Ring.lean) is
stated with; the proofs use `PerKey (RingP …)`, through `ringInv_iff`. -/
def RingP (α : Type) (w s : Nat) (k : Key) (st : RollSt) (t : Nat × Slots) (r : Nat → Option Key) : Prop :=
  st.n k.idx = some t.1 ∧ (∃ (xs : List α) (ob : Obs α) (c : Nat), RInv w s (density w s) xs t ob c) ∧
    RingAt (density w s) k st.w t.2 ∧ r = ringNm (density w s) k t.2

theorem ringInv_iff {α : Type} {w s : Nat} {live : List Key} {st : RollSt} {T : Key → Option (Nat × Slots)} {nm : Naming} :
    RingInv (α := α) w s live st T nm ↔ PerKey (RingP α w s) live st T nm :=
  ⟨fun h => ⟨fun k hk => let ⟨n, sl, h1, h2, h3⟩ := h.live_ k hk; ⟨(n, sl), h2, h1, h3⟩, h.dead⟩,
   fun h => ⟨fun k hk => let ⟨(n, sl), h2, h1, h3⟩ := h.live_ k hk; ⟨n, sl, h1, h2, h3⟩, h.dead⟩⟩

theorem RingP.frame {α : Type} {w s : Nat} {k : Key} {st : RollSt} (v : Option Nat) {ws' : Nat → Option Nat}
    (hf : RingFrame (density w s) k st.w ws') : PerKey.Frame (RingP α w s) k st ⟨upd st.n k.idx v, ws'⟩ :=
  fun _ hidx _ _ ⟨h1, h2, h3, h4⟩ => ⟨(upd_of_ne _ hidx _).trans h1, h2, h3.frame hf hidx, h4⟩

theorem ring_names {α : Type} {w s : Nat} {live : List Key} {st : RollSt} {T : Key → Option (Nat × Slots)} {nm : Naming}
    (h : PerKey (RingP α w s) live st T nm) {k2 : Key} {j2 : Nat} {b : Key} (hb : nm k2 j2 = some b) :
    k2 ∈ live ∧ j2 < density w s ∧ b = wk (density w s) k2 j2 := by
  have hk2 := h.live_of_name hb
  obtain ⟨t, _, _, ⟨xs, ob, c, hr⟩, _, g5⟩ := h.live_ k2 hk2
  rw [g5, ringNm_apply] at hb
  obtain ⟨v, hsl, rfl⟩ := Option.map_eq_some_iff.mp hb
  exact ⟨hk2, Nat.lt_of_not_le (fun hge => nomatch (hr.outside j2 hge).symm.trans hsl), rfl⟩

/-- the opening step of `on_next`; `op` stands for what the `if n % s = 0` of `rollStep` returns -/
theorem open_corr {α : Type} {w s : Nat} {live : List Key} {st : RollSt} {T : Key → Option (Nat × Slots)} {nm : Naming}
    (hinv : PerKey (RingP α w s) live st T nm) (hd : IdxDistinct live) {k : Key} (hk : k ∈ live) (hd0 : 0 < density w s)
    {n : Nat} {sl : Slots} (hfree : n % s = 0 → sl ((n / s) % density w s) = none)
    (g4 : RingAt (density w s) k st.w sl) (g5 : nm k = ringNm (density w s) k sl)
    (op : (Nat → Option Nat) × List (Ev α))
    (hop : op = if n % s = 0 then (upd st.w (k.idx * density w s + (n / s) % density w s) (some n),
      [Ev.create (wk (density w s) k ((n / s) % density w s))]) else (st.w, [])) :
    ∃ nm1, Tr k nm (openSlot (α := α) s (density w s) n sl).2 op.2 nm1 ∧
      nm1 k = ringNm (density w s) k (openSlot (α := α) s (density w s) n sl).1 ∧
      RingAt (density w s) k op.1 (openSlot (α := α) s (density w s) n sl).1 ∧
      RingFrame (density w s) k st.w op.1 := by
  subst hop
  unfold openSlot
  by_cases hm : n % s = 0
  · simp only [hm, if_true]
    have hofflt : (n / s) % density w s < density w s := Nat.mod_lt _ hd0
    have hnone : nm k ((n / s) % density w s) = none := by rw [g5, ringNm_apply, hfree hm]; rfl
    refine ⟨_, .opn nm _ _ _ _ _ hnone ?_ ⟨_, rfl⟩ (.nil _), by rw [updNm_row, g5, ringNm_upd]; rfl,
      g4.upd hofflt, RingFrame.of_upd hofflt fun _ _ => rfl⟩
    intro k2 j2 b hb
    obtain ⟨hk2, hj2, hbe⟩ := ring_names hinv hb
    rw [hbe, wk_idx, wk_idx]
    intro he
    obtain ⟨e1, e2⟩ := slot_inj hj2 hofflt he
    by_cases hkk : k2 = k
    · subst hkk; rw [e2, hnone] at hb; cases hb
    · exact hd.idx_ne hk2 hk hkk e1
  · simp only [hm, if_false]
    exact ⟨nm, .nil _, g5, g4, fun _ _ => rfl⟩

def rollRingSim {α : Type} (w s : Nat) (hs : 0 < s) (hw : 0 < w) : SplitSim (rollRingSp (α := α) w s) (rollRingLS w s) where
  Inv := RingInv (α := α) w s
  init := ringInv_iff.mpr .init
  dead := RingInv.dead
  fatal := fun _ _ => rfl
  create := by
    intro live st T nm k hinv _ _ hany
    replace hinv := ringInv_iff.mp hinv
    refine ⟨rfl, ringInv_iff.mpr (hinv.create (any_idx_eq_false.mp hany) (RingP.frame _ ?_)
      ⟨upd_same .., ⟨[], ⟨fun _ => none, []⟩, 0, inv_init w s _ hw⟩, ?_, rfl⟩)⟩
    · exact fun i hi => (clearSlots_ring (density_pos w s hs hw) k st.w i).trans (if_neg hi)
    · exact fun o ho => (clearSlots_ring (density_pos w s hs hw) k st.w _).trans (if_pos (slot_div _ _ o ho))
  next := by
    intro live st T nm k x hinv hd _ hk
    replace hinv := ringInv_iff.mp hinv
    have hd0 := density_pos w s hs hw
    have hdm := density_mul w s hs
    obtain ⟨⟨n, sl⟩, g2, g1, ⟨xs, ob, c, hr⟩, g4, g5⟩ := hinv.live_ k hk
    -- the opening step (the slot is free by the ring invariant: `slot_free`), then the delivery loop over the ring
    obtain ⟨nm1, o1, o2, o3, o4⟩ := open_corr hinv hd hk hd0 (slot_free hw hdm hd0 hr) g4 g5 _ rfl
    obtain ⟨nm', t1, t2, t3, t4⟩ := deliver_corr w x n (Nat.le_of_eq (Nat.zero_add _)) o3 o2
    have htr := o1.append t1
    refine ⟨(n, sl), g2, nm', ?_⟩
    simp only [rollRingSp, rollStep, g1, rollDeliver_range, List.range_eq_range']
    exact ⟨htr, trivial, ringInv_iff.mpr (hinv.next hd hk htr (RingP.frame _ fun i hi => (t4 i hi).trans (o4 i hi))
      ⟨upd_same .., ⟨xs ++ [x], _, _, inv_step w s (density w s) hs hw hd0 hdm xs (n, sl) ob c x hr⟩, t2, t3⟩)⟩
  done := by
    intro live st T nm k hinv hd _ hk
    replace hinv := ringInv_iff.mp hinv
    have hd0 := density_pos w s hs hw
    obtain ⟨⟨n, sl⟩, g2, g1, ⟨xs, ob, c, hr⟩, g4, g5⟩ := hinv.live_ k hk
    obtain ⟨nm', t1, t2, t3⟩ := flush_corr (α := α) (density w s) k sl st.w nm
      (ringOffs_nodup (density w s) (((n + s - 1) / s) % density w s)) (fun off h => (mem_ringOffs hd0).mp h)
      (fun off h => ⟨g4 off ((mem_ringOffs hd0).mp h), by rw [g5]⟩)
    -- the flush visits every ring offset; positions past the ring never held a window (`RInv.outside`)
    have hall : ∀ j, nm' k j = none := by
      intro j
      rw [t2 j]
      split
      · rfl
      · next hj =>
        have hout : sl j = none := hr.outside j (Nat.le_of_not_lt fun h => hj ((mem_ringOffs hd0).mpr h))
        rw [g5, ringNm_apply]; exact congrArg (Option.map _) hout
    refine ⟨(n, sl), g2, nm', ?_⟩
    simp only [rollRingSp, rollStep, g1, Option.getD_some, rollFlush_offs]
    exact ⟨t1, trivial, ringInv_iff.mpr (hinv.done hd hk t1 (RingP.frame _ t3) hall)⟩

/-- only its existence is used (`Stage.Nested` asks for `Nonempty (SplitSim sp ls)`): the value is built by
tactics and is not meant to be looked into -/
def rollSim {α : Type} (w s : Nat) (hs : 0 < s) (hw : 0 < w) : SplitSim (rollSp (α := α) w s) (rollLS w s) := by
  unfold rollSp rollLS
  by_cases h : w = s
  · simp only [h, if_true]; exact rollCountSim s
  · simp only [h, if_false]; exact rollRingSim w s hs hw

end Rx
