import RxModel.Lemmas.Impl
import RxModel.Lemmas.TeeSim
import RxModel.Lemmas.Wrap
/-!
# `impl_eq_ref` for NESTED pipelines

`Pipe.Nested` admits, to any length and any nesting depth,

* every per-key operator (`prim`),
* `wrap sp ls inner` for every splitter with a step simulation `SplitSim sp ls` (proved for
  `group_by`, `roll` (both implementations), `split`, `time_split`) around a nested inner pipeline,
* `tee_map` with at least one branch, every branch a nested pipeline, any join,

with one side condition: a stage that is followed by a splitter or a tee (directly or further down
the same pipeline) must be *clean* — it never turns an item into an `OnErrorMux` or an `on_error`
(`Stage.Clean`).  The theorem is about clean well-formed input traces (what `mux_observable` and
every clean stage produce); errors in flat pipelines are covered by `impl_eq_ref` itself.

`CleanOp` is closed under composition and `localWrap` (`clean_comp`, `clean_wrap` in Lemmas/Implements) and
under `localTee` (`clean_tee`, first below), which is why `Stage.Clean` only has to ask it of the per-key operators.
-/
namespace Rx

def LBranches.AllClean {α β} : LBranches α β → Prop
  | .nil => True
  | .cons L r => CleanOp L ∧ r.AllClean

theorem branches_clean {α β γ} (mode : Join) (mk : List (Option β) → γ) (inj : β → γ) (x : LIn α)
    (hx : match x with | .err _ => False | _ => True) :
    ∀ (b : LBranches α β) (i : Nat) (s : b.St) (j : LJoinSt β), b.AllClean →
      ∀ o ∈ (LBranches.step mode mk inj b i s j x).2.2, o.isItem = true := by
  intro b
  induction b with
  | nil => exact fun _ _ _ _ _ ho => nomatch ho
  | cons L r ih =>
    intro i s j hc
    refine List.forall_mem_append.mpr ⟨feedLJoin_clean mode mk inj i ?_, ih (i + 1) s.2 _ hc.2⟩
    cases x with
    | item v => exact hc.1.next s.1 v
    | err e => exact hx.elim
    | fin => exact hc.1.fin s.1

theorem clean_tee {α β γ} (mode : Join) (mk : List (Option β) → γ) (inj : β → γ) (b : LBranches α β) (hb : b.AllClean) :
    CleanOp (localTee mode mk inj b) :=
  ⟨fun s x => branches_clean mode mk inj (.item x) trivial b 0 s.1 s.2 hb,
   fun s => branches_clean mode mk inj .fin trivial b 0 s.1 s.2 hb⟩

mutual
/-- the stage never turns an item into an error -/
def Stage.Clean : Stage → Prop
  | .prim L _ => CleanOp L
  | .wrap _ _ inner => inner.Clean
  | .tee _ bs => bs.Clean
def Pipe.Clean : Pipe → Prop
  | .nil => True
  | .cons s rest => s.Clean ∧ rest.Clean
def Pipes.Clean : Pipes → Prop
  | .nil => True
  | .cons p rest => p.Clean ∧ rest.Clean
end

mutual
theorem Stage.clean_loc : (s : Stage) → s.Clean → CleanOp s.loc
  | .prim _ _, h => h
  | .wrap _ ls inner, h => clean_wrap ls inner.loc (inner.clean_loc h)
  | .tee mode bs, h => clean_tee mode mkTupleV id bs.locBranches (bs.clean_loc h)
theorem Pipe.clean_loc : (P : Pipe) → P.Clean → CleanOp P.loc
  | .nil, _ => clean_id
  | .cons s rest, h => clean_comp s.loc rest.loc (s.clean_loc h.1) (rest.clean_loc h.2)
theorem Pipes.clean_loc : (bs : Pipes) → bs.Clean → bs.locBranches.AllClean
  | .nil, _ => trivial
  | .cons p rest, h => ⟨p.clean_loc h.1, rest.clean_loc h.2⟩
end

mutual
def Stage.Nested : Stage → Prop
  | .prim _ _ => True
  | .wrap sp ls inner => Nonempty (SplitSim sp ls) ∧ inner.Nested
  | .tee _ bs => bs.Nested ∧ 0 < bs.locBranches.length
def Pipe.Nested : Pipe → Prop
  | .nil => True
  | .cons s rest => s.Nested ∧ rest.Nested ∧ (rest.Supported ∨ s.Clean)
def Pipes.Nested : Pipes → Prop
  | .nil => True
  | .cons p rest => p.Nested ∧ rest.Nested
end

mutual
/-- `Impl true` by recursion over `Nested` (`N` for nested; `Stage.implements`, `Pipe.implements` are the flat ones):
one of `wrap_impl`, `tee_impl`, `comp_impl` per constructor -/
theorem Stage.implN : (s : Stage) → s.Nested → Impl true s.mux s.loc
  | .prim L _, _ => impl_of_implements (lift_implements L) true
  | .wrap _ _ inner, h => h.1.elim fun sim => wrap_impl sim inner.mux inner.loc true (inner.implN h.2)
  | .tee mode bs, h => tee_impl mode mkTupleV id true bs.muxBranches bs.locBranches (bs.implN h.1) h.2
theorem Pipe.implN : (P : Pipe) → P.Nested → Impl true P.mux P.loc
  | .nil, _ => impl_of_implements (lift_implements idLocal) true
  | .cons s rest, h => h.2.2.elim
    (fun hsup => comp_impl s.mux rest.mux s.loc rest.loc true false (s.implN h.1)
      (impl_of_implements (rest.implements hsup) false) (fun hb => nomatch hb))
    (fun hcl => comp_impl s.mux rest.mux s.loc rest.loc true true (s.implN h.1) (rest.implN h.2.1)
      (fun _ => s.clean_loc hcl))
theorem Pipes.implN : (bs : Pipes) → bs.Nested → BImpl true bs.muxBranches bs.locBranches
  | .nil, _ => trivial
  | .cons p rest, h => ⟨p.implN h.1, rest.implN h.2⟩
end

/-- **impl_eq_ref, nested pipelines**: on every clean well-formed trace — any number of keys, any
interleaving, sparse and reused slot indices — the index-addressed implementation of a nested
pipeline (splitters around inner pipelines, `tee_map` around branch pipelines, to any depth) emits,
input event by input event, exactly what the keyed reference semantics emits -/
theorem impl_eq_ref_nested (P : Pipe) (h : P.Nested) (t : List (Ev Val)) (ht : WF t) (hc : CleanTr t) :
    P.mux.run t = (refLift P.loc).run t :=
  P.implN h t ht (fun _ => hc)

theorem Pipe.nested_of_supported : (P : Pipe) → P.Supported → P.Nested
  | .nil, _ => trivial
  | .cons (.prim _ _) rest, h => ⟨trivial, rest.nested_of_supported h.2, .inl h.2⟩
  | .cons (.wrap _ _ _) _, h => h.1.elim
  | .cons (.tee _ _) _, h => h.1.elim

end Rx
