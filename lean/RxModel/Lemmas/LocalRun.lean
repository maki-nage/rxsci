import RxModel.Lemmas.Local
/-!
# What a local operator emits over one lifetime

`L.fed s os` is everything `L` emits, from state `s`, for an input stream `os` (items, mux errors,
`on_error`) and its completion.  `L.outL xs` is `L.fed L.init (xs.map .item)` (`outL_eq_fed`) and
`outRaw L.next L.fin L.init xs`, so a claim "the operator computes the list function `f`" is proved
by `LocalOp.outL_eq_spec`.  Local composition is function composition on these streams (`fed_comp`,
`LocalOp.outL_comp`).  First the simp set `items_*` for `items` of Event.lean; last, `fed` of `map` and
`filter` on items and of `idLocal`.
-/
namespace Rx

@[simp] theorem items_nil {β} : items ([] : List (LOut β)) = [] := rfl
@[simp] theorem items_item {β} (b : β) (l : List (LOut β)) : items (.item b :: l) = b :: items l := rfl
@[simp] theorem items_err {β} (e : Err) (l : List (LOut β)) : items (.err e :: l) = items l := rfl
@[simp] theorem items_fatal {β} (e : Err) (l : List (LOut β)) : items (.fatal e :: l) = items l := rfl
@[simp] theorem items_append {β} (a b : List (LOut β)) : items (a ++ b) = items a ++ items b :=
  List.filterMap_append
@[simp] theorem items_map_item {α} (xs : List α) : items (xs.map (LOut.item)) = xs := by
  induction xs with
  | nil => rfl
  | cons x xs ih => exact congrArg (x :: ·) ih

def LocalOp.fed {α β} (L : LocalOp α β) (s : L.σ) (os : List (LOut α)) : List (LOut β) :=
  (feedL L s os).2 ++ L.fin (feedL L s os).1

theorem feedL_append {α β} (L : LocalOp α β) : ∀ (a b : List (LOut α)) (s : L.σ),
    feedL L s (a ++ b) = ((feedL L (feedL L s a).1 b).1, (feedL L s a).2 ++ (feedL L (feedL L s a).1 b).2) := by
  intro a
  induction a with
  | nil => intro b s; rfl
  | cons o a ih =>
    intro b s
    cases o <;> simp only [List.cons_append, feedL, ih, List.append_assoc]

theorem fed_nil {α β} (L : LocalOp α β) (s : L.σ) : L.fed s [] = L.fin s := rfl

theorem fed_item {α β} (L : LocalOp α β) (s : L.σ) (x : α) (r : List (LOut α)) :
    L.fed s (.item x :: r) = (L.next s x).2 ++ L.fed (L.next s x).1 r :=
  List.append_assoc _ _ _

theorem fed_err {α β} (L : LocalOp α β) (s : L.σ) (e : Err) (r : List (LOut α)) :
    L.fed s (.err e :: r) = (L.onErr s e).2 ++ L.fed (L.onErr s e).1 r :=
  List.append_assoc _ _ _

theorem fed_fatal {α β} (L : LocalOp α β) (s : L.σ) (e : Err) (r : List (LOut α)) :
    L.fed s (.fatal e :: r) = .fatal e :: L.fed s r := rfl

theorem fed_append {α β} (L : LocalOp α β) (a b : List (LOut α)) (s : L.σ) :
    L.fed s (a ++ b) = (feedL L s a).2 ++ L.fed (feedL L s a).1 b := by
  simp only [LocalOp.fed, feedL_append, List.append_assoc]

theorem fed_comp {α β γ} (L1 : LocalOp α β) (L2 : LocalOp β γ) (os : List (LOut α)) : ∀ (s1 : L1.σ) (s2 : L2.σ),
    (compLocal L1 L2).fed (s1, s2) os = L2.fed s2 (L1.fed s1 os) := by
  induction os with
  | nil => intro s1 s2; rfl
  | cons o os ih =>
    intro s1 s2
    cases o with
    | item x =>
      rw [fed_item L1, fed_append]
      exact (fed_item (compLocal L1 L2) (s1, s2) x os).trans (congrArg (_ ++ ·) (ih _ _))
    | err e =>
      rw [fed_err L1, fed_append]
      exact (fed_err (compLocal L1 L2) (s1, s2) e os).trans (congrArg (_ ++ ·) (ih _ _))
    | fatal e =>
      rw [fed_fatal L1, fed_fatal L2]
      exact congrArg (List.cons (.fatal e)) (ih s1 s2)

theorem fed_map_item {α β} (L : LocalOp α β) : ∀ (xs : List α) (s : L.σ),
    L.fed s (xs.map .item) = outRaw L.next L.fin s xs
  | [], s => fed_nil L s
  | x :: xs, s => by rw [List.map_cons, fed_item, outRaw_cons, fed_map_item L xs]

theorem outL_eq_fed {α β} (L : LocalOp α β) (xs : List α) : L.outL xs = L.fed L.init (xs.map .item) :=
  (fed_map_item L xs L.init).symm

theorem LocalOp.outL_eq_spec {α β} (L : LocalOp α β) (spec : L.σ → List α → List (LOut β))
    (hnil : ∀ s, L.fin s = spec s [])
    (hcons : ∀ s x xs, (L.next s x).2 ++ spec (L.next s x).1 xs = spec s (x :: xs)) (xs : List α) :
    L.outL xs = spec L.init xs :=
  outRaw_eq_spec spec hnil hcons xs L.init

theorem LocalOp.outL_comp {α β γ} (L1 : LocalOp α β) (L2 : LocalOp β γ) (xs : List α) :
    (compLocal L1 L2).outL xs = L2.fed L2.init (L1.outL xs) := by
  rw [outL_eq_fed, outL_eq_fed]; exact fed_comp L1 L2 _ _ _

theorem LocalOp.fed_init_comp {α β γ} (L1 : LocalOp α β) (L2 : LocalOp β γ) (os : List (LOut α)) :
    (compLocal L1 L2).fed (compLocal L1 L2).init os = L2.fed L2.init (L1.fed L1.init os) :=
  fed_comp L1 L2 os _ _

/-- a mux error of the first stage that leaves its state unchanged is handled by the second stage's `onErr` -/
theorem compLocal_next_err {α β γ} {L : LocalOp α β} {H : LocalOp β γ} {s : (compLocal L H).σ} {x : α} {e : Err}
    (h : L.next s.1 x = (s.1, [.err e])) :
    (compLocal L H).next s x = ((s.1, (H.onErr s.2 e).1), (H.onErr s.2 e).2) := by
  show (((L.next s.1 x).1, (feedL H s.2 (L.next s.1 x).2).1), (feedL H s.2 (L.next s.1 x).2).2) = _
  rw [h]
  exact congrArg (Prod.mk _) (List.append_nil _)

theorem mapOp_fed_items {α β} (g : α → β) (s : (mapOp fun x => .ok (g x)).σ) (ys : List α) :
    (mapOp (fun x => .ok (g x))).fed s (ys.map .item) = (ys.map g).map .item :=
  (fed_map_item _ _ _).trans
    (outRaw_eq_spec (fun _ ys => (ys.map g).map LOut.item) (fun _ => rfl) (fun _ _ _ => rfl) ys s)

theorem filterOp_fed_items {α γ} (p : α → γ) (t : γ → Bool) (s : (filterOp (fun x => .ok (p x)) t).σ) (ys : List α) :
    (filterOp (fun x => .ok (p x)) t).fed s (ys.map .item) = (ys.filter (fun y => t (p y))).map .item :=
  (fed_map_item _ _ _).trans
    (outRaw_eq_spec (fun _ ys => (ys.filter (fun y => t (p y))).map LOut.item) (fun _ => rfl)
      (fun _ y ys => by cases h : t (p y) <;> simp [filterOp, h]) ys s)

theorem idLocal_fed {α} (s : (idLocal (α := α)).σ) : ∀ os : List (LOut α), idLocal.fed s os = os
  | [] => rfl
  | .item x :: os => by rw [fed_item, idLocal_fed _ os]; rfl
  | .err e :: os => by rw [fed_err, idLocal_fed _ os]; rfl
  | .fatal e :: os => by rw [fed_fatal, idLocal_fed _ os]

end Rx
