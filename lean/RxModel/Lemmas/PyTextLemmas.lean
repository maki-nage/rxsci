import RxModel.PyText
import RxModel.Lemmas.RunM
/-!
# RxModel/PyText.lean: the operations of `PyStr` (Python `str` / `bytes` / `list` indexing, slices, `x or y`) on the forms of
argument the generated code applies them to; the primitives of `TM` (closures over strings) and `BM` (closures over bytes with a
`BytesIO` cursor) run from a state (as Lemmas/RunM.lean describes)
-/
namespace Rx.PyStr

theorem idx_natCast {n k : Nat} (h : k < n) : idx n (k : Int) = some k := by
  simp only [idx, Int.natCast_nonneg, if_true, Int.toNat_natCast, h]

theorem idx_neg_one (n : Nat) : idx (n + 1) (-1) = some n := by
  simp only [idx, show ¬ (0 : Int) ≤ -1 by decide, if_false, show (-(-1 : Int)).toNat = 1 by decide, Nat.le_add_left, if_true,
    Nat.add_sub_cancel]

theorem getChar_eq (s : List Char) (i : Int) : getChar s i = (getItem s i).map fun c => [c] := by
  unfold getChar getItem
  cases idx s.length i with
  | none => rfl
  | some k => dsimp only; cases s[k]? <;> rfl

theorem getItem_natCast {α} (l : List α) {k : Nat} (h : k < l.length) : getItem l (k : Int) = .ok l[k] := by
  simp only [getItem, idx_natCast h, List.getElem?_eq_getElem h]

theorem getItem_zero {α} (a : α) (l : List α) : getItem (a :: l) 0 = .ok a :=
  getItem_natCast (a :: l) (Nat.zero_lt_succ _)

theorem getItem_neg_one {α} (l : List α) (a : α) : getItem (l ++ [a]) (-1) = .ok a := by
  simp only [getItem, List.length_append, List.length_singleton, idx_neg_one, List.getElem?_concat_length]

theorem getItem_neg_one_eq_getLast {α} (l : List α) (h : l ≠ []) : getItem l (-1) = .ok (l.getLast h) := by
  have := getItem_neg_one l.dropLast (l.getLast h)
  rwa [List.dropLast_concat_getLast h] at this

theorem getItem_neg_one_cons {α} (a : α) (l : List α) (d : α) : getItem (a :: l) (-1) = .ok ((a :: l).getLastD d) := by
  rw [getItem_neg_one_eq_getLast _ (List.cons_ne_nil a l), List.getLastD_eq_getLast?,
    List.getLast?_eq_some_getLast (List.cons_ne_nil a l), Option.getD_some]

theorem getChar_zero (c : Char) (r : List Char) : getChar (c :: r) 0 = .ok [c] := by
  rw [getChar_eq, getItem_zero]; rfl

theorem getChar_neg_one (s : List Char) (a : Char) : getChar (s ++ [a]) (-1) = .ok [a] := by
  rw [getChar_eq, getItem_neg_one]; rfl

theorem getChar_mid (xs sfx : List Char) (a : Char) :
    getChar (xs ++ [a] ++ sfx) (xs.length : Int) = .ok [a] := by
  have h : xs.length < (xs ++ [a]).length := by rw [List.length_append]; exact Nat.lt_succ_self _
  have h' : xs.length < (xs ++ [a] ++ sfx).length := by rw [List.length_append]; exact Nat.lt_add_right _ h
  rw [getChar_eq, getItem_natCast _ h', List.getElem_append_left h, List.getElem_concat_length rfl]
  rfl

theorem setItem_zero {α} (a v : α) (l : List α) : setItem (a :: l) 0 v = .ok (v :: l) := by
  simp only [setItem, List.length_cons, show (0 : Int) = ((0 : Nat) : Int) from rfl, idx_natCast (Nat.zero_lt_succ _), List.set_cons_zero]

theorem slice_neg_one {α} (l : List α) (a : Nat) : slice l a (-1) = (l.dropLast).drop a := by
  have hb : bound l.length (-1) = l.length - 1 := by
    show l.length - min 1 l.length = l.length - 1
    rcases Nat.eq_zero_or_pos l.length with h | h
    · rw [h, Nat.zero_sub, Nat.zero_sub]
    · rw [Nat.min_eq_left h]
  have ha : bound l.length (a : Int) = min a l.length := by
    simp only [bound, Int.natCast_nonneg, if_true, Int.toNat_natCast]
  rw [slice, hb, ha, ← List.dropLast_eq_take]
  have h : l.dropLast.length ≤ l.length := List.length_dropLast ▸ Nat.sub_le _ _
  rcases Nat.le_total a l.length with h' | h'
  · rw [Nat.min_eq_left h']
  · -- past the end of `l.dropLast` both sides are `[]`
    rw [Nat.min_eq_right h', List.drop_eq_nil_of_le h, List.drop_eq_nil_of_le (Nat.le_trans h h')]

theorem slice_zero_neg_one {α} (l : List α) : slice l 0 (-1) = l.dropLast := slice_neg_one l 0

theorem orElse_nil (x : List Char) : orElse x [] = x := by
  cases x <;> rfl

end Rx.PyStr

namespace Rx

section
open TM

def runT {α} (m : TM α) (s : TSt) : Except Err α × TSt := (ExceptT.run m).run s

attribute [reducible] runT

@[run_simps] theorem TM.run_eq (m : TM Unit) (s : TSt) : TM.run m s = runT m s := rfl
theorem runT_getVar (k : Nat) (s : TSt) : runT (getVar k) s = (.ok (s.vars k), s) := rfl
theorem runT_setVar (k : Nat) (v : List Char) (s : TSt) :
    runT (setVar k v) s = (.ok (), { s with vars := fun j => if j = k then v else s.vars j }) := rfl
theorem runT_emit (v : List Char) (s : TSt) : runT (emit v) s = (.ok (), { s with out := s.out ++ [v] }) := rfl
theorem runT_complete (s : TSt) : runT complete s = (.ok (), { s with completed := true }) := rfl
attribute [run_simps] runT_getVar runT_setVar runT_emit runT_complete

/-! for a proof that rewrites by hand; not in `run_simps` (`runM_pure`, `runM_monadLift` are), as `runB_pure` below -/
theorem runT_pure {α} (a : α) (s : TSt) : runT (pure a : TM α) s = (.ok a, s) := rfl
theorem runT_lift_ok {α} (a : α) (s : TSt) : runT (MonadLift.monadLift (Except.ok a : Except Err α)) s = (.ok a, s) := rfl
theorem runT_lift_err {α} (e : Err) (s : TSt) : runT (MonadLift.monadLift (Except.error e : Except Err α)) s = (.error e, s) := rfl

@[run_simps] theorem runT_forIn_emit (l : List (List Char)) (s : TSt) :
    runT (forIn l PUnit.unit (fun line (_ : PUnit) => do TM.emit line; pure (ForInStep.yield PUnit.unit))) s
      = (.ok PUnit.unit, { s with out := s.out ++ l }) := by
  refine runM_forIn l _ (fun _ => PUnit.unit) (fun p => { s with out := s.out ++ p }) rfl (by rw [List.append_nil]) fun p a r _ => ?_
  simp only [run_simps]

end

def runB {α} (m : BM α) (s : BSt) : Except Err α × BSt := (ExceptT.run m).run s

attribute [reducible] runB

theorem runB_pure {α} (a : α) (s : BSt) : runB (pure a : BM α) s = (.ok a, s) := rfl
theorem runB_emit (v : List Nat) (s : BSt) : runB (BM.emit v) s = (.ok (), { s with out := s.out ++ [v] }) := rfl
theorem runB_getVar (k : Nat) (s : BSt) : runB (BM.getVar k) s = (.ok (s.vars k), s) := rfl
theorem runB_setVar (k : Nat) (v : List Nat) (s : BSt) :
    runB (BM.setVar k v) s = (.ok (), { s with vars := fun j => if j = k then v else s.vars j }) := rfl
theorem runB_onError (e : Err) (s : BSt) : runB (BM.onError e) s = (.ok (), { s with errs := s.errs ++ [e] }) := rfl
attribute [run_simps] runB_emit runB_getVar runB_setVar runB_onError
@[run_simps] theorem BM.run_eq {α} (m : BM α) (s : BSt) : BM.run m s = runB m s := rfl
@[run_simps] theorem runB_toBytes (big : Bool) (p n : Nat) (s : BSt) :
    runB (BM.toBytes big p n) s = if n < 256 ^ p then (.ok (toBytes big p n), s) else (.error "OverflowError", s) := by
  unfold BM.toBytes
  split <;> rfl

theorem BIO.read_of_le (B : List Nat) (off n : Nat) (h : n ≤ B.length - off) :
    (⟨B, off⟩ : BIO).read n = ((B.drop off).take n, ⟨B, off + n⟩) := by
  simp only [BIO.read, List.length_take, List.length_drop, Nat.min_eq_left h]

theorem BIO.write_write_data (acc chunk : List Nat) : ((BIO.empty.write acc).write chunk).data = acc ++ chunk := by
  simp only [BIO.empty, BIO.write, List.take_nil, List.drop_nil, List.nil_append, List.append_nil, Nat.zero_add, List.take_length,
    List.drop_of_length_le (Nat.le_add_right _ _)]

end Rx
