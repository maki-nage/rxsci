/-!
# Chunk invariance of greedy streaming parsers

The un-framers and the text decoder all work the same way: a buffer is parsed greedily into the
items it holds completely and a carry, and the carry is put in front of the next chunk.  What makes
the result independent of the chunking is one law, `Splits`: parsing `b ++ m` is parsing `b` and
then parsing what `b` left over followed by `m`.
-/
namespace Rx

def Splits {α β} (parse : List α → List β × List α) : Prop :=
  ∀ b m, parse (b ++ m) =
    ((parse b).1 ++ (parse ((parse b).2 ++ m)).1, (parse ((parse b).2 ++ m)).2)

/-- feed chunk by chunk, the carry in front of the next chunk: per-chunk outputs, final carry -/
def chunked {α β} (parse : List α → List β × List α) : List α → List (List α) → List (List β) × List α
  | acc, [] => ([], acc)
  | acc, c :: cs =>
    ((parse (acc ++ c)).1 :: (chunked parse (parse (acc ++ c)).2 cs).1,
      (chunked parse (parse (acc ++ c)).2 cs).2)

variable {α β} {parse : List α → List β × List α}

theorem Splits.idem (h : Splits parse) (b : List α) : parse (parse b).2 = ([], (parse b).2) := by
  have e := h b []
  rw [List.append_nil, List.append_nil] at e
  exact Prod.ext (List.append_right_eq_self.mp (congrArg Prod.fst e).symm) (congrArg Prod.snd e).symm

/-- however the input is cut into chunks, the items are those of the whole input, and so is the carry -/
theorem Splits.chunked_eq_parse (h : Splits parse) (acc : List α) (cs : List (List α))
    (hacc : parse acc = ([], acc)) :
    ((chunked parse acc cs).1.flatten, (chunked parse acc cs).2) = parse (acc ++ cs.flatten) := by
  induction cs generalizing acc with
  | nil => rw [List.flatten_nil, List.append_nil, hacc]; rfl
  | cons c cs ih =>
    rw [List.flatten_cons, ← List.append_assoc, h (acc ++ c), ← ih _ (h.idem (acc ++ c))]
    rfl

end Rx
