import RxModel.Lemmas.Implements
/-!
# Sequential composition: the inductive step of `impl_eq_ref`

The keyed reference lift commutes with composition on EVERY trace (`comp_ref`): the reference state
of `compLocal L1 L2` at a key is the pair of the two reference states at that key.  Hence if `Q1`,
`Q2` equal the keyed reference lifts of `L1`, `L2` on well-formed (clean) traces, `compMux Q1 Q2`
equals the keyed reference lift of `compLocal L1 L2` on them (`comp_impl`): the trace between the
two is the reference output of `L1`, which is well-formed (`ref_wf`) and clean when `L1` is
(`clean_ref`).
-/
namespace Rx

theorem comp_decompose {α β γ} (Q1 : MuxOp α β) (Q2 : MuxOp β γ) :
    ∀ (t : List (Ev α)) (s1 : Q1.S) (s2 : Q2.S),
      runSteps (compMux Q1 Q2).step (s1, s2) t = runGroups Q2.step s2 (runSteps Q1.step s1 t) := by
  intro t
  induction t with
  | nil => intros; rfl
  | cons e t ih => intro s1 s2; exact congrArg (_ :: ·) (ih _ _)

/-- a chunk of outputs lifted to key `k`, consumed as one group by the reference lift of `L`, is `feedL L` on the
state of `k` -/
theorem runGroup_outs {β γ} (L : LocalOp β γ) {k : Key} :
    ∀ (os : List (LOut β)) {st : Key → Option L.σ} {b : L.σ}, st k = some b →
      runGroup (refStep L) st (os.map (liftOut k)) =
        (upd st k (some (feedL L b os).1), (feedL L b os).2.map (liftOut k)) := by
  intro os
  induction os with
  | nil => intro st b hb; simp only [List.map_nil, runGroup, feedL, upd_eq_self hb]
  | cons o os ih =>
    intro st b hb
    cases o with
    | item x | err x =>
      simp only [List.map_cons, liftOut, runGroup, refStep, hb, feedL, List.map_append]
      rw [ih (upd_same ..), upd_upd]
    | fatal e =>
      simp only [List.map_cons, liftOut, runGroup, refStep, feedL, List.singleton_append]
      rw [ih hb]

/-- the relation of `comp_ref`: `sr` holds at every key the pair of what `s1` and `s2` hold there -/
def Paired {σ1 σ2} (s1 : Key → Option σ1) (s2 : Key → Option σ2) (sr : Key → Option (σ1 × σ2)) : Prop :=
  ∀ k, (sr k = none ∧ s1 k = none ∧ s2 k = none) ∨ ∃ a b, sr k = some (a, b) ∧ s1 k = some a ∧ s2 k = some b

theorem Paired.upd {σ1 σ2} {s1 : Key → Option σ1} {s2 : Key → Option σ2} {sr : Key → Option (σ1 × σ2)}
    (h : Paired s1 s2 sr) (k : Key) (v : Option (σ1 × σ2)) :
    Paired (Rx.upd s1 k (v.map Prod.fst)) (Rx.upd s2 k (v.map Prod.snd)) (Rx.upd sr k v) := by
  intro k'
  by_cases hk : k' = k
  · rw [hk, upd_same, upd_same, upd_same]
    cases v with
    | none => exact .inl ⟨rfl, rfl, rfl⟩
    | some ab => exact .inr ⟨ab.1, ab.2, rfl, rfl, rfl⟩
  · rw [upd_of_ne _ hk, upd_of_ne _ hk, upd_of_ne _ hk]; exact h k'

theorem comp_step {α β γ} (L1 : LocalOp α β) (L2 : LocalOp β γ) {s1 : Key → Option L1.σ}
    {s2 : Key → Option L2.σ} {sr : Key → Option (L1.σ × L2.σ)} (h : Paired s1 s2 sr) (e : Ev α) :
    (runGroup (refStep L2) s2 (refStep L1 s1 e).2).2 = (refStep (compLocal L1 L2) sr e).2 ∧
      Paired (refStep L1 s1 e).1 (runGroup (refStep L2) s2 (refStep L1 s1 e).2).1
        (refStep (compLocal L1 L2) sr e).1 := by
  cases e with
  | create k => exact ⟨rfl, h.upd k (some (L1.init, L2.init))⟩
  | fatal x => exact ⟨rfl, h⟩
  -- `next`, `err`, `done`: either none of the three stores knows `k` and each passes the event on or drops it alike,
  -- or the chunk `L1` emits for `k` goes through `L2` at `k` (`runGroup_outs`)
  | next k x =>
    rcases h k with ⟨hs, h1, h2⟩ | ⟨a, b, hs, h1, h2⟩
    · rw [refStep_next_none L1 h1, refStep_next_none (compLocal L1 L2) hs]
      exact ⟨rfl, h⟩
    · rw [refStep_next_some L1 h1, refStep_next_some (compLocal L1 L2) hs, runGroup_outs L2 _ h2]
      exact ⟨rfl, h.upd k (some (_, _))⟩
  | err k x =>
    rcases h k with ⟨hs, h1, h2⟩ | ⟨a, b, hs, h1, h2⟩
    · rw [refStep_err_none L1 h1, refStep_err_none (compLocal L1 L2) hs, runGroup, runGroup, refStep_err_none L2 h2]
      exact ⟨rfl, h⟩
    · rw [refStep_err_some L1 h1, refStep_err_some (compLocal L1 L2) hs, runGroup_outs L2 _ h2]
      exact ⟨rfl, h.upd k (some (_, _))⟩
  | done k =>
    rcases h k with ⟨hs, h1, h2⟩ | ⟨a, b, hs, h1, h2⟩
    · rw [refStep_done_none L1 h1, refStep_done_none (compLocal L1 L2) hs, runGroup, runGroup, refStep_done_none L2 h2]
      exact ⟨rfl, h⟩
    · rw [refStep_done_some L1 h1, refStep_done_some (compLocal L1 L2) hs, runGroup_append, runGroup_outs L2 _ h2,
        runGroup, runGroup, refStep_done_some L2 (upd_same ..), upd_upd]
      refine ⟨?_, h.upd k none⟩
      simp only [compLocal, List.map_append, List.append_assoc, List.append_nil]

/-- **the keyed reference lift commutes with sequential composition**, on every trace -/
theorem comp_ref {α β γ} (L1 : LocalOp α β) (L2 : LocalOp β γ) :
    ∀ (t : List (Ev α)) (s1 : Key → Option L1.σ) (s2 : Key → Option L2.σ)
      (sr : Key → Option (L1.σ × L2.σ)), Paired s1 s2 sr →
      runGroups (refStep L2) s2 (runSteps (refStep L1) s1 t) =
        runSteps (refStep (compLocal L1 L2)) sr t :=
  fun t s1 s2 sr h => (comp_decompose (refLift L1) (refLift L2) t s1 s2).symm.trans
    (runSteps_rel _ _ (fun s sr => Paired s.1 s.2 sr) (fun _ _ e h => comp_step L1 L2 h e) t (s1, s2) sr h)

structure CRel {σ1 σ2} (live : List Key) (s1 : Key → Option σ1) (s2 : Key → Option σ2)
    (sr : Key → Option (σ1 × σ2)) : Prop where
  live_ : ∀ k ∈ live, ∃ a b, sr k = some (a, b) ∧ s1 k = some a ∧ s2 k = some b
  dead : ∀ k, k ∉ live → sr k = none ∧ s1 k = none ∧ s2 k = none
  nodup : live.Nodup

/-- special case of `comp_ref`: the monitor hypothesis and the field `nodup` are not needed -/
theorem comp_sim {α β γ} (L1 : LocalOp α β) (L2 : LocalOp β γ) :
    ∀ (t : List (Ev α)) (live : List Key) (s1 : Key → Option L1.σ) (s2 : Key → Option L2.σ)
      (sr : Key → Option (L1.σ × L2.σ)),
      wfFrom live t = true → CRel live s1 s2 sr →
      runGroups (refStep L2) s2 (runSteps (refStep L1) s1 t) =
        runSteps (refStep (compLocal L1 L2)) sr t :=
  fun t live s1 s2 sr _ h => comp_ref L1 L2 t s1 s2 sr fun k =>
    if hk : k ∈ live then .inr (h.live_ k hk) else .inl (h.dead k hk)

/-- **the inductive step of `impl_eq_ref` for sequential composition**; the flags say on which
traces each part is known to agree with its reference -/
theorem comp_impl {α β γ} (Q1 : MuxOp α β) (Q2 : MuxOp β γ) (L1 : LocalOp α β) (L2 : LocalOp β γ) (a b : Bool)
    (h1 : Impl a Q1 L1) (h2 : Impl b Q2 L2) (hc : b = true → CleanOp L1) :
    Impl (a || b) (compMux Q1 Q2) (compLocal L1 L2) := by
  intro t ht hcl
  show runSteps (compMux Q1 Q2).step (Q1.init, Q2.init) t = _
  rw [comp_decompose]
  have e1 : runSteps Q1.step Q1.init t = runSteps (refStep L1) (fun _ => none) t :=
    h1 t ht (fun ha => hcl (by rw [ha]; rfl))
  rw [e1]
  have hmid : WF (runSteps (refStep L1) (fun _ => none) t).flatten := ref_wf L1 t ht
  have e2 := h2 _ hmid (fun hb => clean_ref L1 (hc hb) t _ (hcl (by rw [hb, Bool.or_true])))
  rw [runGroups_congr Q2.step (refStep L2) _ Q2.init (fun _ => none) e2]
  exact comp_ref L1 L2 t _ _ _ (fun _ => .inl ⟨rfl, rfl, rfl⟩)

theorem comp_implements {α β γ} (Q1 : MuxOp α β) (Q2 : MuxOp β γ) (L1 : LocalOp α β) (L2 : LocalOp β γ)
    (h1 : Implements Q1 L1) (h2 : Implements Q2 L2) :
    Implements (compMux Q1 Q2) (compLocal L1 L2) :=
  implements_of_impl (comp_impl Q1 Q2 L1 L2 false false (impl_of_implements h1 _) (impl_of_implements h2 _)
    (fun h => nomatch h))

end Rx
