import RxModel.Lemmas.Implements
import RxModel.Lemmas.Split
/-!
# The inductive step of `impl_eq_ref` for a splitter wrapped around an ARBITRARY inner operator

`wrap sp Q` (L1: splitter with index-addressed state, inner mux operator `Q`, demux) equals the keyed
reference lift of `localWrap ls L` (L2: one parent lifetime, locally numbered inner lifetimes) on
every clean well-formed trace (`wrap_impl`), provided

* `Q` equals the keyed reference lift of `L` on well-formed (clean) traces (induction hypothesis), and
* the splitter `sp` simulates its local description `ls` step by step (`SplitSim sp ls`): every
  group of inner events it emits is the translation (`Tr`) of the local commands of the parent key
  under a naming of the open inner lifetimes by inner keys whose slot indices are pairwise distinct.

Two halves, each by one-event lemmas about a translated command group, and each needing only that
the trace has no `OnErrorMux` event: the inner trace is well-formed, and clean when the input is
(`SplitSim.inner_wf`), so that `Q` may be replaced by the keyed reference lift of `L`; and
`wrap sp (refLift L)` is `refLift (localWrap ls L)` (`wrap_ref`), the local inner states of a parent
being the reference states of its inner keys read through the naming (`view`).
-/
namespace Rx

/-- the splitter run alone: per input event, the inner events and the outer events it emits -/
def spRun {α} (sp : Splitter α) : sp.S → List (Ev α) → List (List (Ev α) × List OEv)
  | _, [] => []
  | s, e :: es => (sp.step s e).2 :: spRun sp (sp.step s e).1 es

/-- the output chunks of `wrap`: per input event, the inner operator's chunk demultiplexed, then the splitter's
outer events -/
def glue {β} : List (List (Ev β)) → List (List OEv) → List (List (Ev β))
  | q :: qs, o :: os => (demux q ++ o.map OEv.toEv) :: glue qs os
  | _, _ => []

theorem wrap_decompose {α β} (sp : Splitter α) (Q : MuxOp α β) :
    ∀ (t : List (Ev α)) (s : sp.S) (q : Q.S),
      runSteps (wrap sp Q).step (s, q) t =
        glue (runGroups Q.step q ((spRun sp s t).map (·.1))) ((spRun sp s t).map (·.2)) := by
  intro t
  induction t with
  | nil => intros; rfl
  | cons e t ih => intro s q; exact congrArg (_ :: ·) (ih _ _)

theorem innerTrace_eq {α} (sp : Splitter α) : ∀ (t : List (Ev α)) (s : sp.S),
    sp.innerTrace s t = ((spRun sp s t).map (·.1)).flatten := by
  intro t
  induction t with
  | nil => intro s; rfl
  | cons e t ih => intro s; exact congrArg (_ ++ ·) (ih _)

theorem wrap_run_congr {α β} (sp : Splitter α) (Q Q' : MuxOp α β) (t : List (Ev α))
    (h : Q.run (sp.innerTrace sp.init t) = Q'.run (sp.innerTrace sp.init t)) :
    (wrap sp Q).run t = (wrap sp Q').run t := by
  rw [innerTrace_eq] at h
  show runSteps (wrap sp Q).step (sp.init, Q.init) t = runSteps (wrap sp Q').step (sp.init, Q'.init) t
  rw [wrap_decompose, wrap_decompose, runGroups_congr Q.step Q'.step _ Q.init Q'.init h]

/-- `nm k j = some a`: the local inner lifetime `j` of parent `k` is open, and the inner key `a`
stands for it -/
abbrev Naming := Key → Nat → Option Key

def updNm (nm : Naming) (k : Key) (j : Nat) (v : Option Key) : Naming :=
  fun k' j' => if k' = k ∧ j' = j then v else nm k' j'

theorem updNm_same (nm : Naming) (k : Key) (j : Nat) (v : Option Key) : updNm nm k j v k j = v :=
  if_pos ⟨rfl, rfl⟩

theorem updNm_of_ne (nm : Naming) {k k' : Key} {j j' : Nat} (h : ¬(k' = k ∧ j' = j)) (v : Option Key) :
    updNm nm k j v k' j' = nm k' j' := if_neg h

theorem updNm_row (nm : Naming) (k : Key) (j : Nat) (v : Option Key) : updNm nm k j v k = upd (nm k) j v := by
  funext j2; simp [updNm, upd]

theorem updNm_other {nm : Naming} {k k2 : Key} (h : k2 ≠ k) (j : Nat) (v : Option Key) :
    updNm nm k j v k2 = nm k2 :=
  funext fun _ => updNm_of_ne nm (fun hh => h hh.1) v

/-- `child`: the name of a lifetime of parent `k` is a child key of `k`; `dist`: the names in use have pairwise
distinct slot indices -/
structure NmOK (nm : Naming) : Prop where
  child : ∀ k j a, nm k j = some a → ∃ i, a = i :: k
  dist : ∀ k j a k2 j2 b, nm k j = some a → nm k2 j2 = some b → a.idx = b.idx → k = k2 ∧ j = j2

/-- `Tr k nm cmds evs nm'`: the inner events `evs` are the local commands `cmds` of parent `k`
under the naming `nm`, which they turn into `nm'` -/
inductive Tr {α} (k : Key) : Naming → List (Cmd α) → List (Ev α) → Naming → Prop
  | nil (nm) : Tr k nm [] [] nm
  | opn (nm : Naming) (j : Nat) (a : Key) (cs es nm') : nm k j = none → (∀ k2 j2 b, nm k2 j2 = some b → b.idx ≠ a.idx) →
      (∃ i, a = i :: k) → Tr k (updNm nm k j (some a)) cs es nm' → Tr k nm (.opn j :: cs) (.create a :: es) nm'
  | itm (nm : Naming) (j : Nat) (a : Key) (x cs es nm') : nm k j = some a → Tr k nm cs es nm' → Tr k nm (.itm j x :: cs) (.next a x :: es) nm'
  | cls (nm : Naming) (j : Nat) (a : Key) (cs es nm') : nm k j = some a → Tr k (updNm nm k j none) cs es nm' →
      Tr k nm (.cls j :: cs) (.done a :: es) nm'

theorem NmOK.empty : NmOK (fun _ _ => none) := ⟨fun _ _ _ h => (nomatch h), fun _ _ _ _ _ _ h => nomatch h⟩

theorem NmOK.inj {nm : Naming} (h : NmOK nm) {k k2 : Key} {j j2 : Nat} {a : Key}
    (h1 : nm k j = some a) (h2 : nm k2 j2 = some a) : k2 = k ∧ j2 = j :=
  h.dist k2 j2 a k j a h2 h1 rfl

theorem updNm_eq_some {nm : Naming} {k k1 : Key} {j j1 : Nat} {v : Option Key} {b : Key}
    (h : updNm nm k j v k1 j1 = some b) : (k1 = k ∧ j1 = j) ∧ v = some b ∨ ¬(k1 = k ∧ j1 = j) ∧ nm k1 j1 = some b := by
  by_cases hh : k1 = k ∧ j1 = j
  · rw [hh.1, hh.2, updNm_same] at h; exact .inl ⟨hh, h⟩
  · rw [updNm_of_ne nm hh] at h; exact .inr ⟨hh, h⟩

theorem NmOK.opn {nm : Naming} {k : Key} {j : Nat} {a : Key} (h : NmOK nm)
    (hf : ∀ k2 j2 b, nm k2 j2 = some b → b.idx ≠ a.idx) (hc : ∃ i, a = i :: k) :
    NmOK (updNm nm k j (some a)) := by
  refine ⟨fun k1 j1 a1 h1 => ?_, fun k1 j1 a1 k2 j2 a2 h1 h2 hidx => ?_⟩
  · rcases updNm_eq_some h1 with ⟨hh, e⟩ | ⟨_, e⟩
    · cases e; rw [hh.1]; exact hc
    · exact h.child k1 j1 a1 e
  · rcases updNm_eq_some h1 with ⟨hh1, e1⟩ | ⟨_, e1⟩ <;> rcases updNm_eq_some h2 with ⟨hh2, e2⟩ | ⟨_, e2⟩
    · exact ⟨hh1.1.trans hh2.1.symm, hh1.2.trans hh2.2.symm⟩
    · cases e1; exact absurd hidx.symm (hf k2 j2 a2 e2)
    · cases e2; exact absurd hidx (hf k1 j1 a1 e1)
    · exact h.dist k1 j1 a1 k2 j2 a2 e1 e2 hidx

theorem NmOK.cls {nm : Naming} {k : Key} {j : Nat} (h : NmOK nm) : NmOK (updNm nm k j none) :=
  have old {k1 j1 b} (h1 : updNm nm k j none k1 j1 = some b) : nm k1 j1 = some b :=
    (updNm_eq_some h1).elim (fun e => nomatch e.2) (·.2)
  ⟨fun k1 j1 a1 h1 => h.child k1 j1 a1 (old h1),
   fun k1 j1 a1 k2 j2 a2 h1 h2 => h.dist k1 j1 a1 k2 j2 a2 (old h1) (old h2)⟩

section
variable {α : Type} {k : Key} {nm nm' : Naming} {cmds : List (Cmd α)} {evs : List (Ev α)}

theorem Tr.nmOK (h : Tr k nm cmds evs nm') (hok : NmOK nm) : NmOK nm' := by
  induction h with
  | nil nm => exact hok
  | opn nm j a cs es nm' hn hf hc _ ih => exact ih (hok.opn hf hc)
  | itm nm j a x cs es nm' hn _ ih => exact ih hok
  | cls nm j a cs es nm' hn _ ih => exact ih hok.cls

theorem Tr.clean (h : Tr k nm cmds evs nm') : CleanTr evs := by
  induction h with
  | nil nm => exact cleanTr_nil
  | opn nm j a cs es nm' hn hf hc _ ih => exact cleanTr_cons.mpr ⟨⟨rfl, rfl⟩, ih⟩
  | itm nm j a x cs es nm' hn _ ih => exact cleanTr_cons.mpr ⟨⟨rfl, rfl⟩, ih⟩
  | cls nm j a cs es nm' hn _ ih => exact cleanTr_cons.mpr ⟨⟨rfl, rfl⟩, ih⟩

theorem Tr.frame (h : Tr k nm cmds evs nm') {k2 : Key} (hk : k2 ≠ k) : nm' k2 = nm k2 := by
  induction h with
  | nil => rfl
  | opn _ j _ _ _ _ _ _ _ _ ih => rw [ih, updNm_other hk j _]
  | itm _ _ _ _ _ _ _ _ _ ih => exact ih
  | cls _ j _ _ _ _ _ _ ih => rw [ih, updNm_other hk j _]

theorem Tr.append {n3 : Naming} {c2 : List (Cmd α)} {e2 : List (Ev α)}
    (h1 : Tr k nm cmds evs nm') (h2 : Tr k nm' c2 e2 n3) : Tr k nm (cmds ++ c2) (evs ++ e2) n3 := by
  induction h1 with
  | nil => exact h2
  | opn nm j a _ _ _ a1 a2 a3 _ ih => exact .opn nm j a _ _ _ a1 a2 a3 (ih h2)
  | itm nm j a x _ _ _ a1 _ ih => exact .itm nm j a x _ _ _ a1 (ih h2)
  | cls nm j a _ _ _ a1 _ ih => exact .cls nm j a _ _ _ a1 (ih h2)

/-- `il` lists, without repetition, the inner keys the naming has in use: the monitor's live set
on the inner trace -/
def Lists (il : List Key) (nm : Naming) : Prop := il.Nodup ∧ ∀ a, a ∈ il ↔ ∃ k j, nm k j = some a

theorem Lists.empty : Lists [] (fun _ _ => none) := ⟨.nil, fun _ => ⟨nofun, nofun⟩⟩

theorem Tr.wfLive (h : Tr k nm cmds evs nm') :
    ∀ {il}, NmOK nm → Lists il nm → ∃ il', wfLive il evs = some il' ∧ Lists il' nm' := by
  induction h with
  | nil nm => exact fun _ hl => ⟨_, rfl, hl⟩
  | opn nm j a cs es nm' hn hf hc _ ih =>
    -- `create a` is accepted because `a` is fresh among the names in use, and `a` joins the list
    intro il hok hl
    have hfresh : ∀ b ∈ il, b.idx ≠ a.idx := fun b hb =>
      have ⟨k2, j2, h2⟩ := (hl.2 b).mp hb
      hf k2 j2 b h2
    simp only [Rx.wfLive, wfStep_create.mpr ⟨hfresh, rfl⟩]
    refine ih (hok.opn hf hc) ⟨List.nodup_cons.mpr ⟨fun ha => hfresh a ha rfl, hl.1⟩, fun b => ?_⟩
    rw [List.mem_cons, hl.2 b]
    constructor
    · rintro (rfl | ⟨k2, j2, h2⟩)
      · exact ⟨k, j, updNm_same ..⟩
      · exact ⟨k2, j2, by rw [updNm_of_ne nm fun hh => by rw [hh.1, hh.2, hn] at h2; cases h2]; exact h2⟩
    · rintro ⟨k2, j2, h2⟩
      rcases updNm_eq_some h2 with ⟨_, e⟩ | ⟨_, e⟩
      · exact .inl (Option.some.inj e).symm
      · exact .inr ⟨k2, j2, e⟩
  | itm nm j a x cs es nm' hn _ ih =>
    intro il hok hl
    simp only [Rx.wfLive, wfStep_next.mpr ⟨(hl.2 a).mpr ⟨k, j, hn⟩, rfl⟩]
    exact ih hok hl
  | cls nm j a cs es nm' hn _ ih =>
    intro il hok hl
    simp only [Rx.wfLive, wfStep_done.mpr ⟨(hl.2 a).mpr ⟨k, j, hn⟩, rfl⟩]
    -- `a` leaves the list: it named lifetime `j` of `k` only (`NmOK.inj`)
    refine ih hok.cls ⟨hl.1.erase a, fun b => ?_⟩
    rw [hl.1.mem_erase_iff, hl.2 b]
    constructor
    · rintro ⟨hne, k2, j2, h2⟩
      exact ⟨k2, j2, by rw [updNm_of_ne nm fun hh => by rw [hh.1, hh.2, hn] at h2; exact hne (Option.some.inj h2).symm]; exact h2⟩
    · rintro ⟨k2, j2, h2⟩
      rcases updNm_eq_some h2 with ⟨_, e⟩ | ⟨hh, e⟩
      · cases e
      · exact ⟨fun hba => hh (hok.inj hn (hba ▸ e)), k2, j2, e⟩

end

/-- step simulation between a splitter (index-addressed state, global inner keys) and its local
description (one parent lifetime, local inner ids) -/
structure SplitSim {α} (sp : Splitter α) (ls : LSplit α) where
  Inv : List Key → sp.S → (Key → Option ls.τ) → Naming → Prop
  init : Inv [] sp.init (fun _ => none) (fun _ _ => none)
  dead : ∀ {live s T nm}, Inv live s T nm → ∀ k, k ∉ live → ∀ j, nm k j = none
  create : ∀ {live s T nm} (k : Key), Inv live s T nm → IdxDistinct live → NmOK nm →
    (live.any fun k' => k'.idx == k.idx) = false →
    (sp.step s (.create k)).2 = ([], [.create k]) ∧
      Inv (k :: live) (sp.step s (.create k)).1 (upd T k (some ls.init)) nm
  next : ∀ {live s T nm} (k : Key) (x : α), Inv live s T nm → IdxDistinct live → NmOK nm → k ∈ live →
    ∃ τ, T k = some τ ∧ ∃ nm', Tr k nm (ls.next τ x).2 (sp.step s (.next k x)).2.1 nm' ∧
      (sp.step s (.next k x)).2.2 = [] ∧
      Inv live (sp.step s (.next k x)).1 (upd T k (some (ls.next τ x).1)) nm'
  done : ∀ {live s T nm} (k : Key), Inv live s T nm → IdxDistinct live → NmOK nm → k ∈ live →
    ∃ τ, T k = some τ ∧ ∃ nm', Tr k nm (ls.fin τ) (sp.step s (.done k)).2.1 nm' ∧
      (sp.step s (.done k)).2.2 = [.done k] ∧
      Inv (live.erase k) (sp.step s (.done k)).1 (upd T k none) nm'
  fatal : ∀ (s : sp.S) (e : Err), sp.step s (.fatal e) = (s, [.fatal e], [])

/-- The shape of the `Inv` of every splitter simulation: each live parent `k` has a local state
`t = T k` that `P` relates to the global state `s` and to row `k` of the naming, and dead parents have
no names.  A step of parent `k` leaves the rows and relations of all other parents alone, so
`PerKey.create/next/done` re-establish it from what happens at `k`. -/
structure PerKey {σ τ : Type} (P : Key → σ → τ → (Nat → Option Key) → Prop)
    (live : List Key) (s : σ) (T : Key → Option τ) (nm : Naming) : Prop where
  live_ : ∀ k ∈ live, ∃ t, T k = some t ∧ P k s t (nm k)
  dead : ∀ k, k ∉ live → ∀ j, nm k j = none

def PerKey.Frame {σ τ : Type} (P : Key → σ → τ → (Nat → Option Key) → Prop) (k : Key) (s s' : σ) : Prop :=
  ∀ k0 : Key, k0.idx ≠ k.idx → ∀ t r, P k0 s t r → P k0 s' t r

section
variable {α σ τ : Type} {P : Key → σ → τ → (Nat → Option Key) → Prop} {live live' : List Key} {s s' : σ}
  {T : Key → Option τ} {nm nm' : Naming} {k : Key} {cs : List (Cmd α)} {es : List (Ev α)}

theorem PerKey.init : PerKey P [] s (fun _ => none) (fun _ _ => none) := ⟨nofun, fun _ _ _ => rfl⟩

theorem PerKey.live_of_name (h : PerKey P live s T nm) {j : Nat} {a : Key} (ha : nm k j = some a) : k ∈ live :=
  Decidable.byContradiction fun hk => by rw [h.dead k hk j] at ha; cases ha

/-- a step of parent `k`, whatever it does to `live`: only what holds at `k` has to be shown -/
theorem PerKey.update (h : PerKey P live s T nm) (k : Key) (v : Option τ)
    (hl : ∀ k0, k0 ≠ k → (k0 ∈ live' ↔ k0 ∈ live))
    (hnm : ∀ k0, k0 ≠ k → nm' k0 = nm k0)
    (hidx : ∀ k0 ∈ live, k0 ≠ k → k0.idx ≠ k.idx)
    (hfr : PerKey.Frame P k s s')
    (hin : k ∈ live' → ∃ t, v = some t ∧ P k s' t (nm' k))
    (hout : k ∉ live' → ∀ j, nm' k j = none) :
    PerKey P live' s' (upd T k v) nm' := by
  refine ⟨fun k0 hk0 => ?_, fun k0 hk0 j => ?_⟩
  · by_cases h0 : k0 = k
    · subst h0
      obtain ⟨t, rfl, ht⟩ := hin hk0
      exact ⟨t, upd_same .., ht⟩
    · have hk0' := (hl k0 h0).mp hk0
      obtain ⟨t, h1, h2⟩ := h.live_ k0 hk0'
      exact ⟨t, (upd_of_ne _ h0 _).trans h1, by rw [hnm k0 h0]; exact hfr k0 (hidx k0 hk0' h0) t _ h2⟩
  · by_cases h0 : k0 = k
    · subst h0; exact hout hk0 j
    · rw [hnm k0 h0]; exact h.dead k0 (fun hm => hk0 ((hl k0 h0).mpr hm)) j

theorem PerKey.create (h : PerKey P live s T nm) {t : τ} (hfresh : ∀ k' ∈ live, k'.idx ≠ k.idx)
    (hfr : PerKey.Frame P k s s') (hk : P k s' t fun _ => none) : PerKey P (k :: live) s' (upd T k (some t)) nm :=
  have hnone : nm k = fun _ => none := funext (h.dead k fun hk => hfresh k hk rfl)
  h.update k _ (fun _ h0 => List.mem_cons.trans (or_iff_right h0)) (fun _ _ => rfl) (fun k0 hk0 _ => hfresh k0 hk0) hfr
    (fun _ => ⟨t, rfl, hnone ▸ hk⟩) (fun hn => absurd List.mem_cons_self hn)

theorem PerKey.next (h : PerKey P live s T nm) {t : τ} (hd : IdxDistinct live) (hk : k ∈ live)
    (htr : Tr k nm cs es nm') (hfr : PerKey.Frame P k s s') (hP : P k s' t (nm' k)) :
    PerKey P live s' (upd T k (some t)) nm' :=
  h.update k _ (fun _ _ => Iff.rfl) (fun _ => htr.frame) (fun _ hk0 => hd.idx_ne hk0 hk) hfr
    (fun _ => ⟨t, rfl, hP⟩) (fun hn => absurd hk hn)

theorem PerKey.done (h : PerKey P live s T nm) (hd : IdxDistinct live) (hk : k ∈ live)
    (htr : Tr k nm cs es nm') (hfr : PerKey.Frame P k s s') (hnone : ∀ j, nm' k j = none) :
    PerKey P (live.erase k) s' (upd T k none) nm' :=
  h.update k _ (fun _ h0 => List.mem_erase_of_ne h0) (fun _ => htr.frame)
    (fun _ hk0 => hd.idx_ne hk0 hk) hfr
    (fun hm => absurd hm (hd.nodup.not_mem_erase)) (fun _ => hnone)

end

section inner
variable {α : Type} {sp : Splitter α} {ls : LSplit α} (sim : SplitSim sp ls)

/-- what `inner_run` carries along the trace: the invariant for some `T` and naming, with `il` the monitor's live
set on the inner trace -/
def SplitSim.Reach (live : List Key) (s : sp.S) (il : List Key) : Prop :=
  ∃ T nm, sim.Inv live s T nm ∧ NmOK nm ∧ Lists il nm

/-- one accepted event that is not an `OnErrorMux`, as the monitor sees the inner events the splitter emits for it -/
theorem SplitSim.inner_step {live live' : List Key} {s : sp.S} {il : List Key} {e : Ev α} (hd : IdxDistinct live)
    (h : sim.Reach live s il) (hwf : wfStep live e = some live') (he : e.isErr = false) :
    ∃ il', wfLive il (sp.step s e).2.1 = some il' ∧ sim.Reach live' (sp.step s e).1 il' ∧
      NoErr (sp.step s e).2.1 ∧ (e.isFatal = false → NoFatal (sp.step s e).2.1) := by
  obtain ⟨T, nm, hinv, hok, hl⟩ := h
  cases e with
  | err k x => cases he
  | fatal x =>
    cases wfStep_fatal.mp hwf
    rw [sim.fatal]
    exact ⟨il, rfl, ⟨T, nm, hinv, hok, hl⟩, noErr_cons.mpr ⟨rfl, noErr_nil⟩, fun h => nomatch h⟩
  | create k =>
    obtain ⟨hf, rfl⟩ := wfStep_create.mp hwf
    obtain ⟨hst, hinv'⟩ := sim.create k hinv hd hok (any_idx_eq_false.mpr hf)
    rw [hst]
    exact ⟨il, rfl, ⟨_, nm, hinv', hok, hl⟩, noErr_nil, fun _ => noFatal_nil⟩
  | next k x =>
    obtain ⟨hk, rfl⟩ := wfStep_next.mp hwf
    obtain ⟨_, -, nm', htr, -, hinv'⟩ := sim.next k x hinv hd hok hk
    obtain ⟨il', h1, h2⟩ := htr.wfLive hok hl
    exact ⟨il', h1, ⟨_, nm', hinv', htr.nmOK hok, h2⟩, htr.clean.1, fun _ => htr.clean.2⟩
  | done k =>
    obtain ⟨hk, rfl⟩ := wfStep_done.mp hwf
    obtain ⟨_, -, nm', htr, -, hinv'⟩ := sim.done k hinv hd hok hk
    obtain ⟨il', h1, h2⟩ := htr.wfLive hok hl
    exact ⟨il', h1, ⟨_, nm', hinv', htr.nmOK hok, h2⟩, htr.clean.1, fun _ => htr.clean.2⟩

theorem SplitSim.inner_run :
    ∀ (t : List (Ev α)) {live live' : List Key} {s : sp.S} {il : List Key}, IdxDistinct live → sim.Reach live s il →
      wfLive live t = some live' → NoErr t →
      ∃ s' il', wfLive il (sp.innerTrace s t) = some il' ∧ sim.Reach live' s' il' ∧
        NoErr (sp.innerTrace s t) ∧ (NoFatal t → NoFatal (sp.innerTrace s t)) := by
  intro t
  induction t with
  | nil => intro live live' s il _ h hwf _; cases hwf; exact ⟨s, il, rfl, h, noErr_nil, fun _ => noFatal_nil⟩
  | cons e t ih =>
    intro live live' s il hd h hwf hne
    obtain ⟨he, hne⟩ := noErr_cons.mp hne
    obtain ⟨live1, hs, hwf⟩ := Option.bind_eq_some_iff.mp ((wfLive_cons ..).symm.trans hwf)
    obtain ⟨il1, w1, h1, c1, f1⟩ := sim.inner_step hd h hs he
    obtain ⟨s', il', w2, h2, c2, f2⟩ := ih (hd.step hs) h1 hwf hne
    simp only [Splitter.innerTrace]
    refine ⟨s', il', ?_, h2, noErr_append.mpr ⟨c1, c2⟩, fun hnf => ?_⟩
    · rw [wfLive_append, w1]; exact w2
    · obtain ⟨hf, hnf⟩ := noFatal_cons.mp hnf
      exact noFatal_append.mpr ⟨f1 hf, f2 hnf⟩

include sim in
theorem SplitSim.inner_wf (t : List (Ev α)) (ht : WF t) (hne : NoErr t) :
    WF (sp.innerTrace sp.init t) ∧ NoErr (sp.innerTrace sp.init t) ∧
      (NoFatal t → NoFatal (sp.innerTrace sp.init t)) ∧ (WFClosed t → WFClosed (sp.innerTrace sp.init t)) := by
  obtain ⟨live', hl⟩ := wf_iff.mp ht
  obtain ⟨s', il', w, ⟨T, nm, hinv, -, hil⟩, c, f⟩ :=
    sim.inner_run t List.Pairwise.nil ⟨_, _, sim.init, .empty, .empty⟩ hl hne
  refine ⟨wf_iff.mpr ⟨il', w⟩, c, f, fun hcl => ?_⟩
  cases hl.symm.trans hcl
  have : il' = [] := List.eq_nil_iff_forall_not_mem.mpr fun a ha =>
    have ⟨k, j, h⟩ := (hil.2 a).mp ha
    nomatch (sim.dead hinv k (fun h => nomatch h) j).symm.trans h
  rw [WFClosed, w, this]

end inner

/-- the inner state of local lifetime `j` of parent `k` is the reference state of the inner key that
names it -/
def view {σ} (nm : Naming) (rs : Key → Option σ) (k : Key) : Nat → Option σ := fun j => (nm k j).bind rs

/-- one lemma for the three commands: lifetime `j` of `k` is the only entry of row `k` that may change, and `a`,
which names no other lifetime of `k`, the only reference state written -/
theorem view_step {σ} {nm nm' : Naming} {rs : Key → Option σ} {k a : Key} {j : Nat} {v : Option σ}
    (hj : (nm' k j).bind (upd rs a v) = v) (ho : ∀ j1, j1 ≠ j → nm' k j1 = nm k j1)
    (ha : ∀ j1, j1 ≠ j → nm k j1 ≠ some a) :
    view nm' (upd rs a v) k = upd (view nm rs k) j v := by
  funext j1
  by_cases h : j1 = j
  · rw [h, upd_same]; exact hj
  · rw [upd_of_ne _ h, view, view, ho j1 h]
    cases hb : nm k j1 with
    | none => rfl
    | some b => exact upd_of_ne rs (fun hba => ha j1 h (hb.trans (congrArg some hba))) v

theorem view_frame {σ} {nm nm' : Naming} {rs : Key → Option σ} {k2 a : Key} {v : Option σ}
    (hn : nm' k2 = nm k2) (ha : ∀ j, nm k2 j ≠ some a) : view nm' (upd rs a v) k2 = view nm rs k2 := by
  funext j
  rw [view, view, hn]
  cases hb : nm k2 j with
  | none => rfl
  | some b => exact upd_of_ne rs (fun hba => ha j (hb.trans (congrArg some hba))) v

/-- The keyed reference lift run on inner events (result `q`, from state `rs`) against the local
inner states of parent `k` run on the commands they translate (result `c`): same output once
demultiplexed, the view of `k` is the new local state, the views of the other parents stay. -/
def TrSim {σ β} (k : Key) (nm nm' : Naming) (rs : Key → Option σ) (q : (Key → Option σ) × List (Ev β))
    (c : (Nat → Option σ) × List (LOut β)) : Prop :=
  demux q.2 = (c.2.map demuxL).map (liftOut k) ∧ view nm' q.1 k = c.1 ∧
    ∀ k2, k2 ≠ k → view nm' q.1 k2 = view nm rs k2

theorem TrSim.append {σ β} {k : Key} {nm nm1 nm' : Naming} {rs : Key → Option σ}
    {r q : (Key → Option σ) × List (Ev β)} {c1 c2 : (Nat → Option σ) × List (LOut β)}
    (h1 : TrSim k nm nm1 rs r c1) (h2 : TrSim k nm1 nm' r.1 q c2) :
    TrSim k nm nm' rs (q.1, r.2 ++ q.2) (c2.1, c1.2 ++ c2.2) :=
  ⟨by rw [demux_append, h1.1, h2.1, List.map_append, List.map_append], h2.2.1,
    fun k2 hk2 => (h2.2.2 k2 hk2).trans (h1.2.2 k2 hk2)⟩

theorem trSim_opn {α β} (L : LocalOp α β) {nm : Naming} {k a : Key} (j : Nat) (rs : Key → Option L.σ)
    (hna : ∀ k2 j2, nm k2 j2 ≠ some a) :
    TrSim k nm (updNm nm k j (some a)) rs (refStep L rs (.create a)) (cmdStep L (view nm rs k) (.opn j)) :=
  ⟨rfl, view_step (by rw [updNm_same]; exact upd_same ..) (fun _ h => updNm_of_ne nm (fun hh => h hh.2) _)
      (fun j1 _ => hna k j1),
    fun k2 hk2 => view_frame (updNm_other hk2 ..) (hna k2)⟩

theorem trSim_itm {α β} (L : LocalOp α β) {nm : Naming} (hok : NmOK nm) {k a : Key} {j : Nat}
    (hn : nm k j = some a) (x : α) (rs : Key → Option L.σ) :
    TrSim k nm nm rs (refStep L rs (.next a x)) (cmdStep L (view nm rs k) (.itm j x)) := by
  obtain ⟨i, rfl⟩ := hok.child k j _ hn
  have hin : view nm rs k j = rs (i :: k) := by rw [view, hn]; rfl
  cases hs : rs (i :: k) with
  | none =>
    rw [refStep_next_none L hs, cmdStep_itm_none L (hin.trans hs)]
    exact ⟨rfl, rfl, fun _ _ => rfl⟩
  | some s =>
    rw [refStep_next_some L hs, cmdStep_itm_some L (hin.trans hs)]
    exact ⟨demux_liftOut .., view_step (by rw [hn]; exact upd_same ..) (fun _ _ => rfl)
      (fun j1 h h1 => h (hok.inj hn h1).2), fun k2 hk2 => view_frame rfl fun j2 h2 => hk2 (hok.inj hn h2).1⟩

theorem trSim_cls {α β} (L : LocalOp α β) {nm : Naming} (hok : NmOK nm) {k a : Key} {j : Nat}
    (hn : nm k j = some a) (rs : Key → Option L.σ) :
    TrSim k nm (updNm nm k j none) rs (refStep L rs (.done a)) (cmdStep L (view nm rs k) (.cls j)) := by
  obtain ⟨i, rfl⟩ := hok.child k j _ hn
  have hin : view nm rs k j = rs (i :: k) := by rw [view, hn]; rfl
  have h : TrSim (β := β) k nm (updNm nm k j none) rs (upd rs (i :: k) none, []) (upd (view nm rs k) j none, []) :=
    ⟨rfl, view_step (by rw [updNm_same]; rfl) (fun _ h => updNm_of_ne nm (fun hh => h hh.2) _)
      (fun j1 h h1 => h (hok.inj hn h1).2),
     fun k2 hk2 => view_frame (updNm_other hk2 ..) fun j2 h2 => hk2 (hok.inj hn h2).1⟩
  cases hs : rs (i :: k) with
  | none =>
    rw [refStep_done_none L hs, cmdStep_cls_none L (hin.trans hs)]
    rw [upd_eq_self hs, upd_eq_self (hin.trans hs)] at h
    exact ⟨rfl, h.2⟩
  | some s =>
    rw [refStep_done_some L hs, cmdStep_cls_some L (hin.trans hs)]
    refine ⟨?_, h.2⟩
    rw [demux_append, demux_liftOut]; exact List.append_nil _

theorem Tr.trSim {α β} (L : LocalOp α β) {k : Key} {nm nm' : Naming} {cmds : List (Cmd α)} {evs : List (Ev α)}
    (h : Tr k nm cmds evs nm') : ∀ (rs : Key → Option L.σ) (inner : Nat → Option L.σ), NmOK nm →
      view nm rs k = inner → TrSim k nm nm' rs (runGroup (refStep L) rs evs) (runGroup (cmdStep L) inner cmds) := by
  induction h with
  | nil nm => exact fun rs _ _ hv => ⟨rfl, hv, fun _ _ => rfl⟩
  | opn nm j a cs es nm' hn hf hc _ ih =>
    rintro rs _ hok rfl
    have h1 := trSim_opn L (k := k) j rs fun k2 j2 h => hf k2 j2 a h rfl
    exact h1.append (ih _ _ (hok.opn hf hc) h1.2.1)
  | itm nm j a x cs es nm' hn _ ih =>
    rintro rs _ hok rfl
    have h1 := trSim_itm L hok hn x rs
    exact h1.append (ih _ _ hok h1.2.1)
  | cls nm j a cs es nm' hn _ ih =>
    rintro rs _ hok rfl
    have h1 := trSim_cls L hok hn rs
    exact h1.append (ih _ _ hok.cls h1.2.1)

/-- the keyed reference state of `localWrap ls L` at every parent key: the local splitter state the
simulation keeps for the key, and the inner reference states of its lifetimes -/
def WRel {α β} {sp : Splitter α} {ls : LSplit α} (sim : SplitSim sp ls) (L : LocalOp α β)
    (live : List Key) (s : sp.S) (rs : Key → Option L.σ) (ws : Key → Option (ls.τ × (Nat → Option L.σ))) : Prop :=
  ∃ T nm, sim.Inv live s T nm ∧ NmOK nm ∧ ∀ k, ws k = (T k).map fun t => (t, view nm rs k)

theorem wrel_upd {σ τ} {ws : Key → Option (τ × (Nat → Option σ))} {T : Key → Option τ} {nm nm' : Naming}
    {rs rs' : Key → Option σ} {k : Key} {inner' : Nat → Option σ}
    (hws : ∀ k', ws k' = (T k').map fun t => (t, view nm rs k')) (hv : view nm' rs' k = inner')
    (hs : ∀ k2, k2 ≠ k → view nm' rs' k2 = view nm rs k2) (v : Option τ) (k' : Key) :
    upd ws k (v.map fun t => (t, inner')) k' = (upd T k v k').map fun t => (t, view nm' rs' k') := by
  by_cases hk : k' = k
  · rw [hk, upd_same, upd_same, hv]
  · rw [upd_of_ne _ hk, upd_of_ne _ hk, hws k', hs k' hk]

/-- one accepted event that is not an `OnErrorMux`, as `(wrap sp (refLift L)).step (s, rs)` handles it -/
theorem wrap_step {α β} {sp : Splitter α} {ls : LSplit α} (sim : SplitSim sp ls) (L : LocalOp α β)
    {live live' : List Key} {s : sp.S} {rs : Key → Option L.σ} {ws : Key → Option (ls.τ × (Nat → Option L.σ))}
    {e : Ev α} (hd : IdxDistinct live) (h : WRel sim L live s rs ws) (hwf : wfStep live e = some live')
    (he : e.isErr = false) :
    demux (runGroup (refStep L) rs (sp.step s e).2.1).2 ++ (sp.step s e).2.2.map OEv.toEv =
        (refStep (localWrap ls L) ws e).2 ∧
      WRel sim L live' (sp.step s e).1 (runGroup (refStep L) rs (sp.step s e).2.1).1
        (refStep (localWrap ls L) ws e).1 := by
  obtain ⟨T, nm, hinv, hok, hws⟩ := h
  cases e with
  | err k x => cases he
  | fatal x =>
    cases wfStep_fatal.mp hwf
    rw [sim.fatal]
    exact ⟨rfl, T, nm, hinv, hok, hws⟩
  | create k =>
    obtain ⟨hf, rfl⟩ := wfStep_create.mp hwf
    obtain ⟨hst, hinv'⟩ := sim.create k hinv hd hok (any_idx_eq_false.mpr hf)
    have hv : view nm rs k = fun _ => none :=
      funext fun j => by rw [view, sim.dead hinv k (fun h => hf k h rfl) j]; rfl
    rw [hst]
    exact ⟨rfl, _, nm, hinv', hok, wrel_upd hws hv (fun _ _ => rfl) (some ls.init)⟩
  | next k x =>
    obtain ⟨hk, rfl⟩ := wfStep_next.mp hwf
    obtain ⟨t, hT, nm', htr, hout, hinv'⟩ := sim.next k x hinv hd hok hk
    obtain ⟨s1, s2, s3⟩ := htr.trSim L rs _ hok rfl
    have hwk := hws k
    rw [hT] at hwk
    rw [refStep_next_some (localWrap ls L) hwk, hout]
    exact ⟨(List.append_nil _).trans s1, _, nm', hinv', htr.nmOK hok, wrel_upd hws s2 s3 (some _)⟩
  | done k =>
    obtain ⟨hk, rfl⟩ := wfStep_done.mp hwf
    obtain ⟨t, hT, nm', htr, hout, hinv'⟩ := sim.done k hinv hd hok hk
    obtain ⟨s1, s2, s3⟩ := htr.trSim L rs _ hok rfl
    have hwk := hws k
    rw [hT] at hwk
    rw [refStep_done_some (localWrap ls L) hwk, hout]
    exact ⟨congrArg (· ++ [Ev.done k]) s1, _, nm', hinv', htr.nmOK hok, wrel_upd hws s2 s3 none⟩

theorem wrap_ref {α β} {sp : Splitter α} {ls : LSplit α} (sim : SplitSim sp ls) (L : LocalOp α β)
    (t : List (Ev α)) (ht : WF t) (hne : NoErr t) :
    (wrap sp (refLift L)).run t = (refLift (localWrap ls L)).run t :=
  runSteps_eq_of_sim (step := (wrap sp (refLift L)).step) (step' := refStep (localWrap ls L))
    (fun live st ws => WRel sim L live st.1 st.2 ws) (fun e => e.isErr = false) (wrap_step sim L) t
    List.Pairwise.nil ⟨_, _, sim.init, .empty, fun _ => rfl⟩ ht hne

/-- **the inductive step of `impl_eq_ref` for a splitter around an arbitrary inner operator** -/
theorem wrap_impl {α β} {sp : Splitter α} {ls : LSplit α} (sim : SplitSim sp ls) (Q : MuxOp α β) (L : LocalOp α β)
    (b : Bool) (h : Impl b Q L) : Impl true (wrap sp Q) (localWrap ls L) := by
  intro t ht hcl
  obtain ⟨hne, hnf⟩ := hcl rfl
  obtain ⟨hwf, c, f, -⟩ := sim.inner_wf t ht hne
  rw [wrap_run_congr sp Q (refLift L) t (h _ hwf fun _ => ⟨c, f hnf⟩)]
  exact wrap_ref sim L t ht hne

/-- over a clean well-formed trace a simulated splitter sends a clean well-formed trace into its
inner pipeline, and a closed one when the input is closed -/
theorem split_inner_wf {α} {sp : Splitter α} {ls : LSplit α} (sim : SplitSim sp ls) (t : List (Ev α))
    (ht : WF t) (hc : CleanTr t) :
    WF (sp.innerTrace sp.init t) ∧ CleanTr (sp.innerTrace sp.init t) ∧
      (WFClosed t → WFClosed (sp.innerTrace sp.init t)) := by
  obtain ⟨w, c, f, cl⟩ := sim.inner_wf t ht hc.1
  exact ⟨w, ⟨c, f hc.2⟩, cl⟩

end Rx
