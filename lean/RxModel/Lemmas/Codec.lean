import RxModel.Codec
import RxModel.Lemmas.Chunked
/-!
# The incremental text decoder of RxModel/Codec.lean

What `dec1` does in each byte-length class of each encoding; with that, decoding one character
inverts the encoder (`dec1_enc`) and is not affected by bytes that arrive later (`dec1_mono`), so
greedy decoding `Splits` (`decAll_splits`).
-/
namespace Rx

theorem isScalar_lt {c : Nat} (h : isScalar c = true) : c < 0x110000 ∧ ¬ (0xD800 ≤ c ∧ c < 0xE000) := by
  simp [isScalar] at h
  exact ⟨h.1, fun hc => h.2.elim (Nat.not_lt.mpr hc.1) (Nat.not_le.mpr hc.2)⟩

theorem dec1_utf8_1 (big : Bool) {b0 : Nat} (r : List Nat) (h : b0 < 0x80) :
    dec1 .utf8 big (b0 :: r) = some (b0, r) :=
  if_pos h

theorem dec1_utf8_2 (big : Bool) {b0 : Nat} (r : List Nat) (h1 : 0x80 ≤ b0) (h2 : b0 < 0xE0) :
    dec1 .utf8 big (b0 :: r) =
      match r with
      | b1 :: r => some ((b0 - 0xC0) * 64 + (b1 - 0x80), r)
      | _ => none :=
  (if_neg (Nat.not_lt.mpr h1)).trans (if_pos h2)

theorem dec1_utf8_3 (big : Bool) {b0 : Nat} (r : List Nat) (h2 : 0xE0 ≤ b0) (h3 : b0 < 0xF0) :
    dec1 .utf8 big (b0 :: r) =
      match r with
      | b1 :: b2 :: r => some ((b0 - 0xE0) * 4096 + (b1 - 0x80) * 64 + (b2 - 0x80), r)
      | _ => none :=
  (if_neg (Nat.not_lt.mpr (Nat.le_trans (by decide) h2))).trans
    ((if_neg (Nat.not_lt.mpr h2)).trans (if_pos h3))

theorem dec1_utf8_4 (big : Bool) {b0 : Nat} (r : List Nat) (h3 : 0xF0 ≤ b0) :
    dec1 .utf8 big (b0 :: r) =
      match r with
      | b1 :: b2 :: b3 :: r =>
        some ((b0 - 0xF0) * 262144 + (b1 - 0x80) * 4096 + (b2 - 0x80) * 64 + (b3 - 0x80), r)
      | _ => none :=
  (if_neg (Nat.not_lt.mpr (Nat.le_trans (by decide) h3))).trans
    ((if_neg (Nat.not_lt.mpr (Nat.le_trans (by decide) h3))).trans (if_neg (Nat.not_lt.mpr h3)))

/-- the 16-bit unit the decoder reads from two bytes -/
def u16 (big : Bool) (a b : Nat) : Nat := if big then a * 256 + b else b * 256 + a

theorem dec1_utf16 (big : Bool) (a b : Nat) (r : List Nat) :
    dec1 .utf16 big (a :: b :: r) =
      if 0xD800 ≤ u16 big a b ∧ u16 big a b < 0xDC00 then
        match r with
        | c :: d :: r => some (0x10000 + (u16 big a b - 0xD800) * 1024 + (u16 big c d - 0xDC00), r)
        | _ => none
      else some (u16 big a b, r) :=
  rfl

theorem exists_unit16_eq (big : Bool) (u : Nat) : ∃ a b, unit16 big u = [a, b] ∧ u16 big a b = u := by
  cases big
  · exact ⟨u % 256, u / 256, rfl, Nat.div_add_mod' u 256⟩
  · exact ⟨u / 256, u % 256, rfl, Nat.div_add_mod' u 256⟩

/-- the two top fields of `c` above radix `b` recombine to `c / b` -/
theorem fields_top_two (c a b n : Nat) (h : b * a = n) : c / n * n + c / b % a * b = c / b * b := by
  subst h
  rw [← Nat.div_div_eq_div_mul, Nat.mul_comm b a, ← Nat.mul_assoc, ← Nat.add_mul, Nat.div_add_mod']

theorem fields_64_3 (c : Nat) : c / 4096 * 4096 + c / 64 % 64 * 64 + c % 64 = c := by
  rw [fields_top_two c 64 64 4096 rfl, Nat.div_add_mod']

theorem fields_64_4 (c : Nat) : c / 262144 * 262144 + c / 4096 % 64 * 4096 + c / 64 % 64 * 64 + c % 64 = c := by
  rw [fields_top_two c 64 4096 262144 rfl, fields_64_3]

theorem fields_256_4 (c : Nat) : c / 16777216 * 16777216 + c / 65536 % 256 * 65536 + c / 256 % 256 * 256 + c % 256 = c := by
  rw [fields_top_two c 256 65536 16777216 rfl, fields_top_two c 256 256 65536 rfl, Nat.div_add_mod']

theorem dec1_utf8_enc (big : Bool) (c : Nat) (rest : List Nat) :
    dec1 .utf8 big (utf8Enc c ++ rest) = some (c, rest) := by
  -- the lead byte is `tag + top field`, which puts it in the class of its tag; the continuation
  -- bytes are `0x80 + field`
  rw [utf8Enc]
  by_cases h1 : c < 0x80
  · rw [if_pos h1]
    exact dec1_utf8_1 big rest h1
  rw [if_neg h1]
  by_cases h2 : c < 0x800
  · rw [if_pos h2, List.cons_append, dec1_utf8_2 big _ (Nat.le_add_right_of_le (by decide))
      (show _ < 0xC0 + 0x20 from Nat.add_lt_add_left (Nat.div_lt_of_lt_mul h2) _)]
    simp only [List.cons_append, List.nil_append, Nat.add_sub_cancel_left, Nat.div_add_mod']
  rw [if_neg h2]
  by_cases h3 : c < 0x10000
  · rw [if_pos h3, List.cons_append, dec1_utf8_3 big _ (Nat.le_add_right _ _)
      (show _ < 0xE0 + 0x10 from Nat.add_lt_add_left (Nat.div_lt_of_lt_mul h3) _)]
    simp only [List.cons_append, List.nil_append, Nat.add_sub_cancel_left, fields_64_3]
  rw [if_neg h3, List.cons_append, dec1_utf8_4 big _ (Nat.le_add_right _ _)]
  simp only [List.cons_append, List.nil_append, Nat.add_sub_cancel_left, fields_64_4]

theorem dec1_utf16_enc (big : Bool) (c : Nat) (rest : List Nat) (hc : c < 0x110000)
    (hs : ¬ (0xD800 ≤ c ∧ c < 0xE000)) :
    dec1 .utf16 big (utf16Enc big c ++ rest) = some (c, rest) := by
  unfold utf16Enc
  split
  · obtain ⟨a, b, hab, hu⟩ := exists_unit16_eq big c
    rw [hab, List.cons_append, List.cons_append, dec1_utf16, hu,
      if_neg (fun h => hs ⟨h.1, Nat.lt_trans h.2 (by decide)⟩)]
    rfl
  · -- the two surrogates carry the quotient and remainder of `c - 0x10000` by 1024
    have hq : (c - 0x10000) / 1024 < 1024 :=
      Nat.div_lt_of_lt_mul (Nat.sub_lt_left_of_lt_add (Nat.le_of_not_lt ‹_›) hc)
    obtain ⟨a, b, hab, hu⟩ := exists_unit16_eq big (0xD800 + (c - 0x10000) / 1024)
    obtain ⟨a', b', hab', hu'⟩ := exists_unit16_eq big (0xDC00 + (c - 0x10000) % 1024)
    rw [hab, hab', List.append_assoc, List.cons_append, List.cons_append, dec1_utf16, hu,
      if_pos ⟨Nat.le_add_right _ _, Nat.add_lt_add_left hq 0xD800⟩]
    simp only [List.cons_append, List.nil_append, hu', Nat.add_sub_cancel_left, Nat.add_assoc,
      Nat.div_add_mod']
    rw [Nat.add_sub_cancel' (Nat.le_of_not_lt ‹_›)]

theorem dec1_utf32_enc (big : Bool) (c : Nat) (rest : List Nat) :
    dec1 .utf32 big (utf32Enc big c ++ rest) = some (c, rest) := by
  cases big <;> exact congrArg (fun v => some (v, rest)) (fields_256_4 c)

/-- decoding one character right after its encoding gives it back, whatever follows -/
theorem dec1_enc (e : Enc) (big : Bool) (c : Nat) (rest : List Nat) (h : e.ok c = true) :
    dec1 e big (encChar e big c ++ rest) = some (c, rest) := by
  cases e with
  | latin1 => rfl
  | utf8 => exact dec1_utf8_enc big c rest
  | utf16 => exact dec1_utf16_enc big c rest (isScalar_lt h).1 (isScalar_lt h).2
  | utf32 => exact dec1_utf32_enc big c rest

/-- a successful one-character decode is not affected by bytes arriving later, and consumes input -/
theorem dec1_mono (e : Enc) (big : Bool) (b m : List Nat) (c : Nat) (r : List Nat)
    (h : dec1 e big b = some (c, r)) :
    dec1 e big (b ++ m) = some (c, r ++ m) ∧ r.length < b.length := by
  -- by encoding, class of the lead byte and length of `b`: a buffer shorter than its class asks
  -- for decodes to `none` (`cases h`), a longer one is read up to a fixed position.  There the result
  -- is taken apart by `Prod.mk.inj`: `cases h` would unify the values and evaluate `b0 - 0xC0` down
  -- to `Nat.sub`.
  cases e with
  | latin1 =>
    obtain _ | ⟨x, xs⟩ := b
    · cases h
    · obtain ⟨rfl, rfl⟩ := Prod.mk.inj (Option.some.inj h); exact ⟨rfl, Nat.lt_succ_self _⟩
  | utf8 =>
    obtain _ | ⟨b0, xs⟩ := b
    · cases h
    by_cases h1 : b0 < 0x80
    · rw [dec1_utf8_1 big xs h1] at h
      obtain ⟨rfl, rfl⟩ := Prod.mk.inj (Option.some.inj h)
      exact ⟨dec1_utf8_1 big _ h1, Nat.lt_succ_self _⟩
    by_cases h2 : b0 < 0xE0
    · rw [dec1_utf8_2 big xs (Nat.le_of_not_lt h1) h2] at h
      obtain _ | ⟨b1, ys⟩ := xs
      · cases h
      obtain ⟨rfl, rfl⟩ := Prod.mk.inj (Option.some.inj h)
      exact ⟨dec1_utf8_2 big _ (Nat.le_of_not_lt h1) h2, Nat.lt_add_of_pos_right (k := 2) (by decide)⟩
    by_cases h3 : b0 < 0xF0
    · rw [dec1_utf8_3 big xs (Nat.le_of_not_lt h2) h3] at h
      obtain _ | ⟨b1, _ | ⟨b2, ys⟩⟩ := xs
      · cases h
      · cases h
      obtain ⟨rfl, rfl⟩ := Prod.mk.inj (Option.some.inj h)
      exact ⟨dec1_utf8_3 big _ (Nat.le_of_not_lt h2) h3, Nat.lt_add_of_pos_right (k := 3) (by decide)⟩
    · rw [dec1_utf8_4 big xs (Nat.le_of_not_lt h3)] at h
      obtain _ | ⟨b1, _ | ⟨b2, _ | ⟨b3, ys⟩⟩⟩ := xs
      · cases h
      · cases h
      · cases h
      obtain ⟨rfl, rfl⟩ := Prod.mk.inj (Option.some.inj h)
      exact ⟨dec1_utf8_4 big _ (Nat.le_of_not_lt h3), Nat.lt_add_of_pos_right (k := 4) (by decide)⟩
  | utf16 =>
    obtain _ | ⟨x, _ | ⟨y, xs⟩⟩ := b
    · cases h
    · cases h
    rw [dec1_utf16] at h
    by_cases hs : 0xD800 ≤ u16 big x y ∧ u16 big x y < 0xDC00
    · rw [if_pos hs] at h
      obtain _ | ⟨z, _ | ⟨w, ys⟩⟩ := xs
      · cases h
      · cases h
      obtain ⟨rfl, rfl⟩ := Prod.mk.inj (Option.some.inj h)
      exact ⟨(dec1_utf16 big x y _).trans (if_pos hs), Nat.lt_add_of_pos_right (k := 4) (by decide)⟩
    · rw [if_neg hs] at h
      obtain ⟨rfl, rfl⟩ := Prod.mk.inj (Option.some.inj h)
      exact ⟨(dec1_utf16 big x y _).trans (if_neg hs), Nat.lt_add_of_pos_right (k := 2) (by decide)⟩
  | utf32 =>
    obtain _ | ⟨x, _ | ⟨y, _ | ⟨z, _ | ⟨w, ys⟩⟩⟩⟩ := b
    · cases h
    · cases h
    · cases h
    · cases h
    obtain ⟨rfl, rfl⟩ := Prod.mk.inj (Option.some.inj h)
    exact ⟨rfl, Nat.lt_add_of_pos_right (k := 4) (by decide)⟩

theorem decAll_none (e : Enc) (big : Bool) (b : List Nat) (h : dec1 e big b = none) : decAll e big b = ([], b) := by
  rw [decAll.eq_1]
  split
  · rfl
  · next c r heq => cases h.symm.trans heq

theorem decAll_some (e : Enc) (big : Bool) (b : List Nat) (c : Nat) (r : List Nat) (h : dec1 e big b = some (c, r)) :
    decAll e big b = (c :: (decAll e big r).1, (decAll e big r).2) := by
  rw [decAll.eq_1]
  split
  · next heq => cases h.symm.trans heq
  · next c' r' heq =>
    cases h.symm.trans heq
    exact if_pos (dec1_mono e big b [] c r h).2

theorem decAll_splits (e : Enc) (big : Bool) : Splits (decAll e big) := by
  intro b
  induction hn : b.length using Nat.strongRecOn generalizing b with
  | ind n ih =>
    intro m
    cases hd : dec1 e big b with
    | none => rw [decAll_none e big b hd]; simp
    | some cr =>
      obtain ⟨c, r⟩ := cr
      have hm := dec1_mono e big b m c r hd
      rw [decAll_some e big (b ++ m) c (r ++ m) hm.1, decAll_some e big b c r hd,
        ih r.length (hn ▸ hm.2) r rfl]
      rfl

/-- greedy decoding splits over concatenation: decode the first part, carry the rest over.  `n` is not
used: `decAll_splits` is the form to use. -/
theorem decAll_append (e : Enc) (big : Bool) : ∀ (n : Nat) (b m : List Nat), b.length = n →
    decAll e big (b ++ m) =
      ((decAll e big b).1 ++ (decAll e big ((decAll e big b).2 ++ m)).1, (decAll e big ((decAll e big b).2 ++ m)).2) :=
  fun _ b m _ => decAll_splits e big b m

theorem decAll_idem (e : Enc) (big : Bool) (b : List Nat) :
    (decAll e big (decAll e big b).2).1 = [] ∧ (decAll e big (decAll e big b).2).2 = (decAll e big b).2 :=
  Prod.ext_iff.mp ((decAll_splits e big).idem b)

theorem decAll_encoded (e : Enc) (big : Bool) (cs : List Nat) (h : ∀ c ∈ cs, e.ok c = true) :
    decAll e big (cs.flatMap (encChar e big)) = (cs, []) := by
  induction cs with
  | nil => exact decAll_none e big [] (by cases e <;> rfl)
  | cons c cs ih =>
    rw [List.flatMap_cons, decAll_some e big _ c _ (dec1_enc e big c _ (h c List.mem_cons_self)),
      ih fun x hx => h x (List.mem_cons_of_mem c hx)]

end Rx
