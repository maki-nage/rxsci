import RxModel.Tee
/-!
# The join arrays of `tee_map` (RxModel/Tee.lean), a slice at a time

An array read over a range of positions is `(List.range L).map f`: written at one position, cut to a
slice, grown (`map_range_set` … `range_prefix`; Props/LinkC08 holds the Python lists of the join against
the arrays in this form).  `sliceQ` / `sliceH` of an array written at one position or cleared over the
slice, and `allHas`, as list operations on the slice; what a step of the join leaves alone (`JFrame`:
everything outside the slice of the event's key; the merge join: everything) and when it leaves the slice
empty (`BlockClear`: the completion of the last branch); the tee as the join of its branches run alone
(`branches_step_eq`, `tee_run_eq`).
-/
namespace Rx

def sliceH (h : Nat → Bool) (base n : Nat) : List Bool := (List.range n).map fun i => h (base + i)

theorem sliceQ_length {β} (q : Nat → Option β) (base n : Nat) : (sliceQ q base n).length = n := by simp [sliceQ]
theorem sliceH_length (h : Nat → Bool) (base n : Nat) : (sliceH h base n).length = n := by simp [sliceH]

theorem map_range_set {β} (f : Nat → β) (L i : Nat) (g : β) :
    ((List.range L).map f).set i g = (List.range L).map (fun j => if j = i then g else f j) :=
  List.ext_getElem (by simp only [List.length_set, List.length_map]) fun j _ _ => by
    simp only [List.getElem_set, List.getElem_map, List.getElem_range, eq_comm (a := i)]

theorem slice_range {β} (f : Nat → β) {L a n : Nat} (h : a + n ≤ L) :
    (((List.range L).map f).take (a + n)).drop a = (List.range' a n).map f := by
  rw [← List.map_take, ← List.map_drop, List.take_range, Nat.min_eq_left h, List.range_eq_range', List.drop_range']
  simp

theorem map_range_grow {β} (f : Nat → β) (z : β) (L k : Nat) (hout : ∀ j, L ≤ j → f j = z) :
    (List.range L).map f ++ List.replicate k z = (List.range (L + k)).map f := by
  induction k with
  | zero => rw [List.replicate_zero, List.append_nil, Nat.add_zero]
  | succ k ih =>
    rw [List.replicate_succ', ← List.append_assoc, ih, ← Nat.add_assoc, List.range_succ, List.map_append, List.map_cons, List.map_nil,
      hout (L + k) (Nat.le_add_right L k)]

theorem range_prefix {n a : Nat} {p r : List Nat} (h : List.range n = p ++ a :: r) : a = p.length ∧ a < n := by
  have h1 : (List.range n)[p.length]? = some a := by rw [h, List.getElem?_append_right (Nat.le_refl _), Nat.sub_self]; rfl
  obtain ⟨hlt, he⟩ := List.getElem?_eq_some_iff.mp h1
  rw [List.getElem_range] at he
  exact ⟨he.symm, by rw [← he]; simpa using hlt⟩

/-- `sliceQ` and `sliceH` are this list, for the queue and for the flags -/
theorem slice_set {γ} (f : Nat → γ) (base n i : Nat) (v : γ) :
    ((List.range n).map fun m => if base + m = base + i then v else f (base + m)) =
      ((List.range n).map fun m => f (base + m)).set i v := by
  simp only [map_range_set, Nat.add_left_cancel_iff]

theorem slice_const {γ} (f : Nat → γ) (base n : Nat) (z : γ) (h : ∀ m, m < n → f (base + m) = z) :
    ((List.range n).map fun m => f (base + m)) = List.replicate n z := by
  apply List.ext_getElem
  · simp
  · intro m h1 h2
    simp only [List.getElem_map, List.getElem_range, List.getElem_replicate]
    exact h m (by simpa using h1)

theorem sliceQ_set {β} (q : Nat → Option β) (base n i : Nat) (v : Option β) :
    sliceQ (fun j => if j = base + i then v else q j) base n = (sliceQ q base n).set i v :=
  slice_set q base n i v

theorem sliceH_set (h : Nat → Bool) (base n i : Nat) (v : Bool) :
    sliceH (fun j => if j = base + i then v else h j) base n = (sliceH h base n).set i v :=
  slice_set h base n i v

theorem allHas_eq (h : Nat → Bool) (base : Nat) : ∀ n, allHas h base n = (sliceH h base n).all id := by
  intro n
  induction n with
  | zero => rfl
  | succ n ih =>
    simp only [allHas, ih, sliceH, List.range_succ, List.map_append, List.all_append, List.map_cons, List.map_nil,
      List.all_cons, List.all_nil, Bool.and_true, id]
    rw [Bool.and_comm]

/-- `clearQ` and `clearHas` are such a `c`, with `z` the empty slot and the lowered flag -/
theorem clear_eq {γ} (z : γ) (f : Nat → γ) (base : Nat) (c : Nat → Nat → γ) (h0 : ∀ j, c 0 j = f j)
    (hs : ∀ n j, c (n + 1) j = if j = base + n then z else c n j) :
    ∀ n j, c n j = if base ≤ j ∧ j < base + n then z else f j := by
  intro n
  induction n with
  | zero => intro j; rw [h0, if_neg fun h => Nat.not_lt.mpr h.1 h.2]
  | succ n ih =>
    intro j
    rw [hs, ih]
    by_cases hj : j = base + n
    · rw [if_pos hj, if_pos ⟨hj ▸ Nat.le_add_right .., hj ▸ Nat.lt_succ_self _⟩]
    · rw [if_neg hj]
      by_cases h1 : base ≤ j ∧ j < base + n
      · rw [if_pos h1, if_pos ⟨h1.1, Nat.lt_succ_of_lt h1.2⟩]
      · rw [if_neg h1, if_neg fun h => h1 ⟨h.1, (Nat.lt_succ_iff_lt_or_eq.mp h.2).resolve_right hj⟩]

theorem clearQ_eq {β} (q : Nat → Option β) (base : Nat) : ∀ n j,
    clearQ q base n j = if base ≤ j ∧ j < base + n then none else q j :=
  clear_eq none q base (clearQ q base) (fun _ => rfl) (fun _ _ => rfl)

theorem clearHas_eq (h : Nat → Bool) (base : Nat) : ∀ n j,
    clearHas h base n j = if base ≤ j ∧ j < base + n then false else h j :=
  clear_eq false h base (clearHas h base) (fun _ => rfl) (fun _ _ => rfl)

theorem sliceQ_clear {β} (q : Nat → Option β) (base n : Nat) :
    sliceQ (clearQ q base n) base n = (sliceQ q base n).map fun _ => none := by
  rw [List.map_const', sliceQ_length]
  exact slice_const _ base n none fun m hm => (clearQ_eq ..).trans (if_pos ⟨Nat.le_add_right .., Nat.add_lt_add_left hm _⟩)

theorem sliceH_clear (h : Nat → Bool) (base n : Nat) :
    sliceH (clearHas h base n) base n = (sliceH h base n).map fun _ => false := by
  rw [List.map_const', sliceH_length]
  exact slice_const _ base n false fun m hm => (clearHas_eq ..).trans (if_pos ⟨Nat.le_add_right .., Nat.add_lt_add_left hm _⟩)

/-- `j` is no position of the slice `k.idx * n ..< k.idx * n + n` of key `k` -/
def Outside (n : Nat) (k : Key) (j : Nat) : Prop := ¬ (k.idx * n ≤ j ∧ j < k.idx * n + n)

/-- `jst'` is `jst` outside the slice of `k`: all that an event of key `k` may change is that slice -/
def JFrame {β} (n : Nat) (k : Key) (jst jst' : JoinSt β) : Prop :=
  ∀ j, Outside n k j → jst'.queue j = jst.queue j ∧ jst'.has j = jst.has j

/-- the slice of slot index `idx` holds nothing.  Of an index, not of a key: it is the next key created
on `idx` that needs it (`TRel.clear`). -/
def BlockClear {β} (n idx : Nat) (jst : JoinSt β) : Prop :=
  ∀ j, idx * n ≤ j → j < idx * n + n → jst.queue j = none ∧ jst.has j = false

theorem JFrame.refl {β} {n : Nat} {k : Key} {a : JoinSt β} : JFrame n k a a := fun _ _ => ⟨rfl, rfl⟩

theorem JFrame.trans {β} {n : Nat} {k : Key} {a b c : JoinSt β} (h1 : JFrame n k a b) (h2 : JFrame n k b c) :
    JFrame n k a c := fun j hj => ⟨(h2 j hj).1.trans (h1 j hj).1, (h2 j hj).2.trans (h1 j hj).2⟩

theorem JFrame.set {β} {n i : Nat} (hi : i < n) (k : Key) (jst : JoinSt β) (a : Option β) (b : Bool) :
    JFrame n k jst ⟨fun j => if j = k.idx * n + i then a else jst.queue j,
      fun j => if j = k.idx * n + i then b else jst.has j⟩ := by
  intro j hj
  have : j ≠ k.idx * n + i := fun e => hj ⟨e ▸ Nat.le_add_right .., e ▸ Nat.add_lt_add_left hi _⟩
  exact ⟨if_neg this, if_neg this⟩

theorem JFrame.clear {β} (n : Nat) (k : Key) (jst : JoinSt β) :
    JFrame n k jst ⟨clearQ jst.queue (k.idx * n) n, clearHas jst.has (k.idx * n) n⟩ :=
  fun j hj => ⟨(clearQ_eq _ _ _ j).trans (if_neg hj), (clearHas_eq _ _ _ j).trans (if_neg hj)⟩

theorem BlockClear.clear {β} (n : Nat) (k : Key) (jst : JoinSt β) :
    BlockClear n k.idx ⟨clearQ jst.queue (k.idx * n) n, clearHas jst.has (k.idx * n) n⟩ :=
  fun j h1 h2 => ⟨(clearQ_eq _ _ _ j).trans (if_pos ⟨h1, h2⟩), (clearHas_eq _ _ _ j).trans (if_pos ⟨h1, h2⟩)⟩

section join
variable {β γ : Type} (mode : Join) (n : Nat) (mk : List (Option β) → γ) (inj : β → γ) (ra : Bool) (i : Nat) (k : Key)

theorem joinStep_merge (jst : JoinSt β) (e : Ev β) : (joinStep .merge n mk inj ra jst i e).1 = jst := by
  cases e with
  | done k => exact (apply_ite Prod.fst _ _ _).trans (ite_self jst)
  | _ => rfl

theorem feedJoin_merge : ∀ (l : List (Ev β)) (jst : JoinSt β), (feedJoin .merge n mk inj ra i jst l).1 = jst
  | [], _ => rfl
  | e :: l, jst => by rw [feedJoin, feedJoin_merge l, joinStep_merge]

theorem feedJoin_append : ∀ (l l' : List (Ev β)) (jst : JoinSt β), feedJoin mode n mk inj ra i jst (l ++ l') =
    ((feedJoin mode n mk inj ra i (feedJoin mode n mk inj ra i jst l).1 l').1,
      (feedJoin mode n mk inj ra i jst l).2 ++ (feedJoin mode n mk inj ra i (feedJoin mode n mk inj ra i jst l).1 l').2)
  | [], _, _ => rfl
  | e :: l, l', jst => by simp only [List.cons_append, feedJoin, feedJoin_append l, List.append_assoc]

theorem joinStep_done_not_last (hi : i ≠ n - 1) (st : JoinSt β) : joinStep mode n mk inj ra st i (.done k) = (st, []) :=
  if_neg hi

theorem joinStep_frame (hi : i < n) (st : JoinSt β) (o : LOut β) :
    JFrame n k st (joinStep mode n mk inj ra st i (liftOut k o)).1 := by
  have fs := fun x => JFrame.set hi k st (some x) true
  cases o with
  | err e => exact .refl
  | fatal e => exact .refl
  | item x =>
    cases mode with
    | merge => exact .refl
    | combine => exact fs x
    | zip =>
      exact iteInduction (motive := fun r : JoinSt β × List (Ev γ) => JFrame n k st r.1)
        (fun _ => (fs x).trans (.clear n k _)) fun _ => fs x

theorem joinStep_done_last (hi : i = n - 1) (st : JoinSt β) :
    (joinStep mode n mk inj true st i (.done k)).2 = [.done k] ∧
      JFrame n k st (joinStep mode n mk inj true st i (.done k)).1 ∧
      (mode ≠ .merge → BlockClear n k.idx (joinStep mode n mk inj true st i (.done k)).1) := by
  by_cases hm : mode = .merge
  · rw [show joinStep mode n mk inj true st i (.done k) = _ from (if_pos hi).trans (if_pos hm)]
    exact ⟨rfl, JFrame.refl, fun h => absurd hm h⟩
  · rw [show joinStep mode n mk inj true st i (.done k) = _ from (if_pos hi).trans (if_neg hm)]
    exact ⟨rfl, JFrame.clear n k st, fun _ => BlockClear.clear n k st⟩

theorem Branches.step_merge {α} : ∀ (b : Branches α β) (i : Nat) (s : b.St) (jst : JoinSt β) (e : Ev α),
    (Branches.step .merge n mk inj ra b i s jst e).2.1 = jst := by
  intro b
  induction b with
  | nil => intros; rfl
  | cons Q r ih => intro i s jst e; rw [Branches.step, ih, feedJoin_merge]

end join

/-- every branch stepped on its own: new states and, per branch, its chunk for this event -/
def Branches.stepAlone {α β} : (b : Branches α β) → b.St → Ev α → b.St × List (List (Ev β))
  | .nil, s, _ => (s, [])
  | .cons Q r, s, e =>
    let o := Q.step s.1 e
    let rr := Branches.stepAlone r s.2 e
    ((o.1, rr.1), o.2 :: rr.2)

/-- join the chunks of branches `i, i+1, …` in branch order -/
def joinChunks {β γ} (mode : Join) (n : Nat) (mk : List (Option β) → γ) (inj : β → γ) (resetAll : Bool) :
    Nat → JoinSt β → List (List (Ev β)) → JoinSt β × List (Ev γ)
  | _, j, [] => (j, [])
  | i, j, c :: cs =>
    let a := feedJoin mode n mk inj resetAll i j c
    let a2 := joinChunks mode n mk inj resetAll (i + 1) a.1 cs
    (a2.1, a.2 ++ a2.2)

theorem branches_step_eq {α β γ} (mode : Join) (n : Nat) (mk : List (Option β) → γ) (inj : β → γ) (ra : Bool)
    (b : Branches α β) : ∀ (i : Nat) (s : b.St) (j : JoinSt β) (e : Ev α),
      Branches.step mode n mk inj ra b i s j e =
        ((b.stepAlone s e).1, joinChunks mode n mk inj ra i j (b.stepAlone s e).2) := by
  induction b with
  | nil => intros; rfl
  | cons Q r ih =>
    intro i s j e
    simp only [Branches.step, Branches.stepAlone, joinChunks]
    rw [ih]

/-- per source event: the chunks of the branches run alone (states threaded independently) -/
def Branches.runAlone {α β} (b : Branches α β) : b.St → List (Ev α) → List (List (List (Ev β)))
  | _, [] => []
  | s, e :: es => (b.stepAlone s e).2 :: b.runAlone (b.stepAlone s e).1 es

def joinRun {β γ} (mode : Join) (n : Nat) (mk : List (Option β) → γ) (inj : β → γ) (ra : Bool) :
    JoinSt β → List (List (List (Ev β))) → List (List (Ev γ))
  | _, [] => []
  | j, cs :: rest =>
    let a := joinChunks mode n mk inj ra 0 j cs
    a.2 :: joinRun mode n mk inj ra a.1 rest

theorem tee_run_eq {α β γ} (mode : Join) (n : Nat) (mk : List (Option β) → γ) (inj : β → γ) (ra : Bool)
    (b : Branches α β) : ∀ (t : List (Ev α)) (s : b.St) (j : JoinSt β),
      runSteps (fun (st : b.St × JoinSt β) e =>
          let r := Branches.step mode n mk inj ra b 0 st.1 st.2 e
          ((r.1, r.2.1), r.2.2)) (s, j) t =
        joinRun mode n mk inj ra j (b.runAlone s t)
  | [], _, _ => rfl
  | e :: t, s, j => by
    rw [Branches.runAlone, joinRun, ← tee_run_eq mode n mk inj ra b t]
    exact congrArg (fun R => R.2.2 :: runSteps _ (R.1, R.2.1) t) (branches_step_eq mode n mk inj ra b 0 s j e)

theorem Branches.runAlone_length {α β} (b : Branches α β) : ∀ (t : List (Ev α)) (s : b.St), (b.runAlone s t).length = t.length
  | [], _ => rfl
  | _ :: t, _ => congrArg (· + 1) (Branches.runAlone_length b t _)

theorem Branches.runAlone_cons {α β} (Q : MuxOp α β) (r : Branches α β) : ∀ (t : List (Ev α)) (s1 : Q.S) (s2 : r.St),
    (Branches.cons Q r).runAlone (s1, s2) t = List.zipWith List.cons (runSteps Q.step s1 t) (r.runAlone s2 t)
  | [], _, _ => rfl
  | _ :: t, _, _ => congrArg (_ :: ·) (Branches.runAlone_cons Q r t _ _)

end Rx
