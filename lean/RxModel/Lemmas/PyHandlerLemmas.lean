import RxModel.PyHandler
import RxModel.PyVal
import RxModel.Lemmas.RunM
/-!
# The primitives of `HM` (generated handlers), `PM` (plain closures) and `RM` (the root observers), run from a state

`runS`, `runP`, `runR` are `runM` (Lemmas/RunM.lean) at the three state records (`runS` is the runner of `HM`; `SM` is run by
`runM`.  `Rx.runP` is not `PlainOp.runP`).  A link proof unfolds the generated definition and lets
`simp only [run_simps, ↓reduceIte, …]` run it (`↓reduceIte`: an `if` whose test is decided is replaced by its branch before `simp`
looks into the other one).  Which form of a primitive's lemma is in `run_simps` is said in Lemmas/RunM.lean; here `emitOuter`,
`PM.complete`, `RM.complete` and `RM.fail`, which only end blocks, have the first form alone.  `unmark` and `unmarkN` are no
effects: `pure v` on `some v`, an exception on `none`.  The `_bind` lemmas are proved from `runM_bind_ok`, not by `rfl`: `simp` uses
a lemma proved by `rfl` as an unfolding without a proof step, and the kernel then runs the statement, with the whole rest of the
handler as an argument, through the monad stack again.
-/
namespace Rx
open HM

theorem updSlot_same (f : Nat → Nat → Slot Val) (sid i : Nat) (v : Slot Val) : updSlot f sid i v sid i = v :=
  if_pos ⟨rfl, rfl⟩

theorem updSlot_updSlot (f : Nat → Nat → Slot Val) (sid i : Nat) (a b : Slot Val) :
    updSlot (updSlot f sid i a) sid i b = updSlot f sid i b := by
  funext s j
  by_cases h : s = sid ∧ j = i <;> simp [updSlot, h]

attribute [run_simps] updSlot_same updSlot_updSlot

theorem updSlot_eq_self {f : Nat → Nat → Slot Val} {sid i : Nat} {v : Slot Val} (h : f sid i = v) : updSlot f sid i v = f := by
  subst h
  funext s j
  simp only [updSlot]
  split
  next hc => rw [hc.1, hc.2]
  next => rfl

def runS {α} (m : HM Val α) (s : HSt Val) : Except Err α × HSt Val := (ExceptT.run m).run s

attribute [reducible] runS

/-! Some `runM_*` lemmas stated at `HM` (and below at `PM`, `RM`), for a proof that rewrites by hand; these are not in `run_simps`. -/

theorem runS_bind {α β} (m : HM Val α) (f : α → HM Val β) (s : HSt Val) :
    runS (m >>= f) s = thenRun (runS m s) fun a s' => runS (f a) s' := runM_bind m f s

theorem runS_pure {α} (a : α) (s : HSt Val) : runS (pure a : HM Val α) s = (.ok a, s) := rfl
theorem runS_ite {α} (c : Prop) [Decidable c] (a b : HM Val α) (s : HSt Val) :
    runS (if c then a else b) s = if c then runS a s else runS b s := runM_ite c a b s
theorem runS_lift_ok {α} (a : α) (s : HSt Val) : runS (MonadLift.monadLift (Except.ok a : Except Err α)) s = (.ok a, s) := rfl
theorem runS_lift_err {α} (e : Err) (s : HSt Val) : runS (MonadLift.monadLift (Except.error e : Except Err α)) s = (.error e, s) := rfl
theorem runS_er_pure {ρ α} (r : α) (s : HSt Val) :
    runS (ExceptT.run (pure r : ExceptT ρ (HM Val) α)) s = (.ok (.ok r), s) := rfl

theorem runS_getState_bind {β} (sid : Nat) (k : Key) (f : Option Val → HM Val β) (s : HSt Val) :
    runS (getState sid k >>= f) s = match s.stores sid k.idx with
      | some m => runS (f m) s
      | none => (.error "ClearedSlot", s) := by
  rw [getState, bind_assoc]
  refine (runM_bind_ok (runM_get s) _).trans ?_
  cases s.stores sid k.idx <;> rfl

/-- on a slot that is not CLEARED, for a proof that rewrites by hand: a conditional lemma is not in `run_simps` -/
theorem runS_getState (sid : Nat) (k : Key) (s : HSt Val) (m : Option Val) (h : s.stores sid k.idx = some m) :
    runS (getState sid k) s = (.ok m, s) := by
  rw [← bind_pure (getState sid k), runS_getState_bind, h]; rfl

theorem runS_setState (sid : Nat) (k : Key) (v : Val) (s : HSt Val) :
    runS (setState sid k v) s = (.ok (), { s with stores := updSlot s.stores sid k.idx (some (some v)) }) := rfl
theorem runS_addKey (sid : Nat) (k : Key) (d : Option Val) (s : HSt Val) :
    runS (addKey sid k d) s = (.ok (), { s with stores := updSlot s.stores sid k.idx (some d) }) := rfl
theorem runS_delKey (sid : Nat) (k : Key) (s : HSt Val) :
    runS (delKey sid k) s = (.ok (), { s with stores := updSlot s.stores sid k.idx none }) := rfl
theorem runS_emit (e : Ev Val) (s : HSt Val) : runS (emit e) s = (.ok (), { s with out := s.out ++ [e] }) := rfl
theorem runS_unmark (v : Val) (s : HSt Val) : runS (unmark (some v)) s = (.ok v, s) := rfl
theorem runS_unmark_none (s : HSt Val) : runS (unmark (none : Option Val)) s = (.error "NOTSET-used-as-a-value", s) := rfl
theorem unmark_some (v : Val) : unmark (some v) = (pure v : HM Val Val) := rfl

theorem runS_setState_bind {β} (sid : Nat) (k : Key) (v : Val) (f : Unit → HM Val β) (s : HSt Val) :
    runS (setState sid k v >>= f) s = runS (f ()) { s with stores := updSlot s.stores sid k.idx (some (some v)) } :=
  runM_bind_ok (runS_setState sid k v s) f
theorem runS_addKey_bind {β} (sid : Nat) (k : Key) (d : Option Val) (f : Unit → HM Val β) (s : HSt Val) :
    runS (addKey sid k d >>= f) s = runS (f ()) { s with stores := updSlot s.stores sid k.idx (some d) } :=
  runM_bind_ok (runS_addKey sid k d s) f
theorem runS_delKey_bind {β} (sid : Nat) (k : Key) (f : Unit → HM Val β) (s : HSt Val) :
    runS (delKey sid k >>= f) s = runS (f ()) { s with stores := updSlot s.stores sid k.idx none } :=
  runM_bind_ok (runS_delKey sid k s) f
theorem runS_emit_bind {β} (e : Ev Val) (f : Unit → HM Val β) (s : HSt Val) :
    runS (emit e >>= f) s = runS (f ()) { s with out := s.out ++ [e] } :=
  runM_bind_ok (runS_emit e s) f

theorem runS_emitOuter (e : Ev Val) (s : HSt Val) : runS (emitOuter e) s = (.ok (), { s with outer := s.outer ++ [e] }) := rfl

attribute [run_simps] runS_getState_bind runS_setState runS_addKey runS_delKey runS_emit runS_emitOuter runS_unmark_none unmark_some
  runS_setState_bind runS_addKey_bind runS_delKey_bind runS_emit_bind

theorem runS_getMap_bind {β} (sid : Nat) (k : Key) (mk : Val) (f : Option Nat → HM Val β) (s : HSt Val) :
    runS (getMap sid k mk >>= f) s = match s.maps sid k.idx with
      | some m => runS (f ((m.find? (fun p => PyAlg.eq p.1 mk)).map (·.2))) s
      | none => (.error "ClearedSlot", s) := by
  rw [getMap, bind_assoc]
  refine (runM_bind_ok (runM_get s) _).trans ?_
  cases s.maps sid k.idx <;> rfl

theorem runS_addMap_bind {β} (sid : Nat) (k : Key) (mk : Val) (f : Nat → HM Val β) (s : HSt Val) :
    runS (addMap sid k mk >>= f) s = match s.maps sid k.idx with
      | some m => runS (f s.nextIndex)
          { s with maps := updMap s.maps sid k.idx (some (m ++ [(mk, s.nextIndex)])), nextIndex := s.nextIndex + 1 }
      | none => (.error "ClearedSlot", s) := by
  rw [addMap, bind_assoc]
  refine (runM_bind_ok (runM_get s) _).trans ?_
  cases s.maps sid k.idx <;> rfl

theorem runS_iterateMap_bind {β} (sid : Nat) (k : Key) (f : List Val → HM Val β) (s : HSt Val) :
    runS (iterateMap sid k >>= f) s = match s.maps sid k.idx with
      | some m => runS (f (m.map (·.1))) s
      | none => (.error "ClearedSlot", s) := by
  rw [iterateMap, bind_assoc]
  refine (runM_bind_ok (runM_get s) _).trans ?_
  cases s.maps sid k.idx <;> rfl

theorem runS_addKeyMap (sid : Nat) (k : Key) (s : HSt Val) :
    runS (addKeyMap sid k) s = (.ok (), { s with maps := updMap s.maps sid k.idx (some []) }) := rfl
theorem runS_delKeyMap (sid : Nat) (k : Key) (s : HSt Val) :
    runS (delKeyMap sid k) s = (.ok (), { s with maps := updMap s.maps sid k.idx none }) := rfl
theorem runS_delMap (sid : Nat) (k : Key) (mk : Val) (s : HSt Val) : runS (delMap sid k mk) s = (.ok (), s) := rfl

theorem runS_addKeyMap_bind {β} (sid : Nat) (k : Key) (f : Unit → HM Val β) (s : HSt Val) :
    runS (addKeyMap sid k >>= f) s = runS (f ()) { s with maps := updMap s.maps sid k.idx (some []) } :=
  runM_bind_ok (runS_addKeyMap sid k s) f
theorem runS_delKeyMap_bind {β} (sid : Nat) (k : Key) (f : Unit → HM Val β) (s : HSt Val) :
    runS (delKeyMap sid k >>= f) s = runS (f ()) { s with maps := updMap s.maps sid k.idx none } :=
  runM_bind_ok (runS_delKeyMap sid k s) f
theorem runS_delMap_bind {β} (sid : Nat) (k : Key) (mk : Val) (f : Unit → HM Val β) (s : HSt Val) :
    runS (delMap sid k mk >>= f) s = runS (f ()) s := runM_bind_ok (runS_delMap sid k mk s) f
theorem unmarkN_some (n : Nat) : (unmarkN (some n) : HM Val Nat) = pure n := rfl
theorem runS_unmarkN_none (s : HSt Val) : runS (unmarkN none) s = (.error "NOTSET-used-as-an-index", s) := rfl

attribute [run_simps] runS_getMap_bind runS_addMap_bind runS_iterateMap_bind runS_addKeyMap runS_delKeyMap runS_delMap
  runS_addKeyMap_bind runS_delKeyMap_bind runS_delMap_bind unmarkN_some runS_unmarkN_none

/-- `(zip, combine)` as the code's two flags -/
def Join.flags : Join → Bool × Bool
  | .merge => (false, false)
  | .zip => (true, false)
  | .combine => (false, true)

theorem Join.flags_or {mode : Join} (hm : mode ≠ .merge) : (mode.flags.1 || mode.flags.2) = true := by
  cases mode <;> first | rfl | exact absurd rfl hm

theorem runS_lenQueue (s : HSt Val) : runS lenQueue s = (.ok s.jq.length, s) := rfl
theorem runS_queueAppend (v : Val) (s : HSt Val) : runS (queueAppend v) s = (.ok (), { s with jq := s.jq ++ [v] }) := rfl
theorem runS_hasAppend (b : Bool) (s : HSt Val) : runS (hasAppend b) s = (.ok (), { s with jh := s.jh ++ [b] }) := rfl
theorem runS_queueSlice (a b : Nat) (s : HSt Val) : runS (queueSlice a b) s = (.ok ((s.jq.take b).drop a), s) := rfl
theorem runS_hasSlice (a b : Nat) (s : HSt Val) : runS (hasSlice a b) s = (.ok ((s.jh.take b).drop a), s) := rfl

theorem runS_lenQueue_bind {β} (f : Nat → HM Val β) (s : HSt Val) : runS (lenQueue >>= f) s = runS (f s.jq.length) s :=
  runM_bind_ok (runS_lenQueue s) f
theorem runS_queueAppend_bind {β} (v : Val) (f : Unit → HM Val β) (s : HSt Val) :
    runS (queueAppend v >>= f) s = runS (f ()) { s with jq := s.jq ++ [v] } := runM_bind_ok (runS_queueAppend v s) f
theorem runS_hasAppend_bind {β} (b : Bool) (f : Unit → HM Val β) (s : HSt Val) :
    runS (hasAppend b >>= f) s = runS (f ()) { s with jh := s.jh ++ [b] } := runM_bind_ok (runS_hasAppend b s) f
theorem runS_queueSlice_bind {β} (a b : Nat) (f : List Val → HM Val β) (s : HSt Val) :
    runS (queueSlice a b >>= f) s = runS (f ((s.jq.take b).drop a)) s := runM_bind_ok (runS_queueSlice a b s) f
theorem runS_hasSlice_bind {β} (a b : Nat) (f : List Bool → HM Val β) (s : HSt Val) :
    runS (hasSlice a b >>= f) s = runS (f ((s.jh.take b).drop a)) s := runM_bind_ok (runS_hasSlice a b s) f

theorem runS_queueSet (i : Nat) (v : Val) (s : HSt Val) :
    runS (queueSet i v) s = if i < s.jq.length then (.ok (), { s with jq := s.jq.set i v }) else (.error "IndexError", s) := by
  simp only [queueSet, run_simps]
theorem runS_hasSet (i : Nat) (b : Bool) (s : HSt Val) :
    runS (hasSet i b) s = if i < s.jh.length then (.ok (), { s with jh := s.jh.set i b }) else (.error "IndexError", s) := by
  simp only [hasSet, run_simps]

theorem runS_queueSet_bind {β} (i : Nat) (v : Val) (f : Unit → HM Val β) (s : HSt Val) :
    runS (queueSet i v >>= f) s = if i < s.jq.length then runS (f ()) { s with jq := s.jq.set i v } else (.error "IndexError", s) :=
  runM_bind_guard (runS_queueSet i v s) f
theorem runS_hasSet_bind {β} (i : Nat) (b : Bool) (f : Unit → HM Val β) (s : HSt Val) :
    runS (hasSet i b >>= f) s = if i < s.jh.length then runS (f ()) { s with jh := s.jh.set i b } else (.error "IndexError", s) :=
  runM_bind_guard (runS_hasSet i b s) f

attribute [run_simps] runS_lenQueue runS_queueAppend runS_hasAppend runS_queueSlice runS_hasSlice runS_queueSet runS_hasSet
  runS_lenQueue_bind runS_queueAppend_bind runS_hasAppend_bind runS_queueSlice_bind runS_hasSlice_bind runS_queueSet_bind runS_hasSet_bind

theorem runH_eq (m : HM Val Unit) (stores : Nat → Nat → Slot Val) :
    runH m stores = ((runS m { stores := stores, out := [] }).1, (runS m { stores := stores, out := [] }).2.stores,
      (runS m { stores := stores, out := [] }).2.out) := rfl

theorem runH2_eq (m : HM Val Unit) (stores : Nat → Nat → Slot Val) :
    runH2 m stores = ((runS m { stores := stores, out := [] }).1, (runS m { stores := stores, out := [] }).2.stores,
      (runS m { stores := stores, out := [] }).2.out, (runS m { stores := stores, out := [] }).2.outer) := rfl

/-- a loop that only emits: `for x in l: observer.on_next(mk x)` -/
theorem runS_forIn_emit {γ : Type} (mk : γ → Ev Val) (l : List γ) (s : HSt Val) :
    runS (forIn l PUnit.unit (fun x (_ : PUnit) => do emit (mk x); pure (ForInStep.yield PUnit.unit))) s
      = (.ok PUnit.unit, { s with out := s.out ++ l.map mk }) := by
  refine runM_forIn l _ (fun _ => PUnit.unit) (fun p => { s with out := s.out ++ p.map mk }) rfl
    (by rw [List.map_nil, List.append_nil]) fun p a r _ => ?_
  simp only [run_simps, List.map_append]

attribute [run_simps] runS_forIn_emit

theorem emit_loop (mk : Val → Ev Val) (l : List Val) (s : HSt Val) :
    runS (forIn l PUnit.unit (fun x (_ : PUnit) => do emit (mk x); pure (ForInStep.yield PUnit.unit))) s
      = (.ok PUnit.unit, { s with out := s.out ++ l.map mk }) := runS_forIn_emit mk l s

/-- `for _ in range(size): observer.on_next(mk v)` -/
theorem emit_const_loop (mk : Val → Ev Val) (a : Val) (l : List Nat) (s : HSt Val) :
    runS (forIn l PUnit.unit (fun (_ : Nat) (_ : PUnit) => do
        let t ← unmark (some a); emit (mk t); pure (ForInStep.yield PUnit.unit))) s
      = (.ok PUnit.unit, { s with out := s.out ++ List.replicate l.length (mk a) }) := by
  simp only [run_simps, List.map_const']

def runP {α} (m : PM Val α) (s : PSt Val) : Except Err α × PSt Val := (ExceptT.run m).run s

attribute [reducible] runP

@[run_simps] theorem PM.run_eq (m : PM Val Unit) (vars : Nat → Val) : PM.run m vars = runP m { vars := vars } := rfl

theorem runP_bind {α β} (m : PM Val α) (f : α → PM Val β) (s : PSt Val) :
    runP (m >>= f) s = thenRun (runP m s) fun a s' => runP (f a) s' := runM_bind m f s

theorem runP_tryCatch {α} (m : PM Val α) (h : Err → PM Val α) (s : PSt Val) :
    runP (tryCatch m h) s = catchRun (runP m s) fun e s' => runP (h e) s' := runM_tryCatch m h s

theorem runP_pure {α} (a : α) (s : PSt Val) : runP (pure a : PM Val α) s = (.ok a, s) := rfl
theorem runP_lift_ok {α} (a : α) (s : PSt Val) : runP (MonadLift.monadLift (Except.ok a : Except Err α)) s = (.ok a, s) := rfl
theorem runP_er_pure {ρ α} (r : α) (s : PSt Val) :
    runP (ExceptT.run (pure r : ExceptT ρ (PM Val) α)) s = (.ok (.ok r), s) := rfl

theorem runP_getVar (k : Nat) (s : PSt Val) : runP (PM.getVar k) s = (.ok (s.vars k), s) := rfl
theorem runP_setVar (k : Nat) (v : Val) (s : PSt Val) :
    runP (PM.setVar k v) s = (.ok (), { s with vars := fun j => if j = k then v else s.vars j }) := rfl
theorem runP_emit (v : Val) (s : PSt Val) : runP (PM.emit v) s = (.ok (), { s with out := s.out ++ [v] }) := rfl
theorem runP_fail (e : Err) (s : PSt Val) :
    runP (PM.fail e) s = (.ok (), { s with failed := s.failed <|> some e }) := rfl

theorem runP_getVar_bind {β} (k : Nat) (f : Val → PM Val β) (s : PSt Val) :
    runP (PM.getVar k >>= f) s = runP (f (s.vars k)) s := runM_bind_ok (runP_getVar k s) f
theorem runP_setVar_bind {β} (k : Nat) (v : Val) (f : Unit → PM Val β) (s : PSt Val) :
    runP (PM.setVar k v >>= f) s = runP (f ()) { s with vars := fun j => if j = k then v else s.vars j } :=
  runM_bind_ok (runP_setVar k v s) f
theorem runP_emit_bind {β} (v : Val) (f : Unit → PM Val β) (s : PSt Val) :
    runP (PM.emit v >>= f) s = runP (f ()) { s with out := s.out ++ [v] } := runM_bind_ok (runP_emit v s) f
theorem runP_fail_bind {β} (e : Err) (f : Unit → PM Val β) (s : PSt Val) :
    runP (PM.fail e >>= f) s = runP (f ()) { s with failed := s.failed <|> some e } := runM_bind_ok (runP_fail e s) f

theorem runP_complete (s : PSt Val) : runP PM.complete s = (.ok (), { s with completed := true }) := rfl

attribute [run_simps] runP_getVar runP_setVar runP_emit runP_fail runP_complete runP_getVar_bind runP_setVar_bind runP_emit_bind
  runP_fail_bind

section
open PM
theorem runP_queueAll (s : PSt Val) : runP queueAll s = (.ok s.jq, s) := rfl
theorem runP_hasAll (s : PSt Val) : runP hasAll s = (.ok s.jh, s) := rfl
theorem runP_doneAll (s : PSt Val) : runP doneAll s = (.ok s.jd, s) := rfl
end

theorem runP_queueAll_bind {β} (f : List Val → PM Val β) (s : PSt Val) : runP (PM.queueAll >>= f) s = runP (f s.jq) s :=
  runM_bind_ok (runP_queueAll s) f
theorem runP_hasAll_bind {β} (f : List Bool → PM Val β) (s : PSt Val) : runP (PM.hasAll >>= f) s = runP (f s.jh) s :=
  runM_bind_ok (runP_hasAll s) f
theorem runP_doneAll_bind {β} (f : List Bool → PM Val β) (s : PSt Val) : runP (PM.doneAll >>= f) s = runP (f s.jd) s :=
  runM_bind_ok (runP_doneAll s) f

theorem runP_queueSet (i : Nat) (v : Val) (s : PSt Val) :
    runP (PM.queueSet i v) s = if i < s.jq.length then (.ok (), { s with jq := s.jq.set i v }) else (.error "IndexError", s) := by
  simp only [PM.queueSet, run_simps]
theorem runP_hasSet (i : Nat) (b : Bool) (s : PSt Val) :
    runP (PM.hasSet i b) s = if i < s.jh.length then (.ok (), { s with jh := s.jh.set i b }) else (.error "IndexError", s) := by
  simp only [PM.hasSet, run_simps]
theorem runP_doneSet (i : Nat) (b : Bool) (s : PSt Val) :
    runP (PM.doneSet i b) s = if i < s.jd.length then (.ok (), { s with jd := s.jd.set i b }) else (.error "IndexError", s) := by
  simp only [PM.doneSet, run_simps]

theorem runP_queueSet_bind {β} (i : Nat) (v : Val) (f : Unit → PM Val β) (s : PSt Val) :
    runP (PM.queueSet i v >>= f) s = if i < s.jq.length then runP (f ()) { s with jq := s.jq.set i v } else (.error "IndexError", s) :=
  runM_bind_guard (runP_queueSet i v s) f
theorem runP_hasSet_bind {β} (i : Nat) (b : Bool) (f : Unit → PM Val β) (s : PSt Val) :
    runP (PM.hasSet i b >>= f) s = if i < s.jh.length then runP (f ()) { s with jh := s.jh.set i b } else (.error "IndexError", s) :=
  runM_bind_guard (runP_hasSet i b s) f
theorem runP_doneSet_bind {β} (i : Nat) (b : Bool) (f : Unit → PM Val β) (s : PSt Val) :
    runP (PM.doneSet i b >>= f) s = if i < s.jd.length then runP (f ()) { s with jd := s.jd.set i b } else (.error "IndexError", s) :=
  runM_bind_guard (runP_doneSet i b s) f

attribute [run_simps] runP_queueAll runP_hasAll runP_doneAll runP_queueSet runP_hasSet runP_doneSet
  runP_queueAll_bind runP_hasAll_bind runP_doneAll_bind runP_queueSet_bind runP_hasSet_bind runP_doneSet_bind

theorem runP_forIn_emit {γ : Type} (mk : γ → Val) (l : List γ) (s : PSt Val) :
    runP (forIn l PUnit.unit (fun x (_ : PUnit) => do PM.emit (mk x); pure (ForInStep.yield PUnit.unit))) s
      = (.ok PUnit.unit, { s with out := s.out ++ l.map mk }) := by
  refine runM_forIn l _ (fun _ => PUnit.unit) (fun p => { s with out := s.out ++ p.map mk }) rfl
    (by rw [List.map_nil, List.append_nil]) fun p a r _ => ?_
  simp only [run_simps, List.map_append]

attribute [run_simps] runP_forIn_emit

def runR {α β} (m : RM α β) (s : RSt α) : Except Err β × RSt α := (ExceptT.run m).run s

attribute [reducible] runR

@[run_simps] theorem RM.run_eq {α β} (m : RM α β) (s : RSt α) : RM.run m s = runR m s := rfl

theorem runR_pure {α β} (a : β) (s : RSt α) : runR (pure a : RM α β) s = (.ok a, s) := rfl
theorem runR_emit {α} (x : α) (s : RSt α) : runR (RM.emit x) s = (.ok (), { s with out := s.out ++ [x] }) := rfl
theorem runR_complete {α} (s : RSt α) : runR (RM.complete : RM α Unit) s = (.ok (), { s with completed := true }) := rfl
theorem runR_fail {α} (e : Err) (s : RSt α) : runR (RM.fail e : RM α Unit) s = (.ok (), { s with failed := s.failed <|> some e }) := rfl

theorem runR_emit_bind {α γ} (x : α) (f : Unit → RM α γ) (s : RSt α) :
    runR (RM.emit x >>= f) s = runR (f ()) { s with out := s.out ++ [x] } := runM_bind_ok (runR_emit x s) f

attribute [run_simps] runR_emit runR_complete runR_fail runR_emit_bind

theorem runR_forIn_emit {α γ : Type} (mk : γ → α) (l : List γ) (s : RSt α) :
    runR (forIn l PUnit.unit (fun x (_ : PUnit) => do RM.emit (mk x); pure (ForInStep.yield PUnit.unit))) s
      = (.ok PUnit.unit, { s with out := s.out ++ l.map mk }) := by
  refine runM_forIn l _ (fun _ => PUnit.unit) (fun p => { s with out := s.out ++ p.map mk }) rfl
    (by rw [List.map_nil, List.append_nil]) fun p a r _ => ?_
  simp only [run_simps, List.map_append]

attribute [run_simps] runR_forIn_emit

end Rx
