import RxModel.Lemmas.Local
/-!
# Base case of `impl_eq_ref`: `idxLift L` emits what `refLift L` emits on every well-formed trace

Along a trace the monitor accepts, live keys have pairwise distinct slot indices (`IdxDistinct`), so
slot `k.idx` of the indexed store holds what the keyed store holds at `k` (`StoreAgree`).  Also here: the monitor
and `refStep` of Event.lean event by event (`wfStep_*`, `wfLive_*`, `refStep_*_some/_none`), how a
one-event simulation along the monitor gives equal runs (`runSteps_eq_of_sim`, used again for `wrap` and
`tee_map`), and that the keyed reference lift maps accepted traces to accepted traces with the same live
keys (`ref_wfLive`).
-/
namespace Rx

/-- the freshness test of the monitor -/
theorem any_idx_eq_false {live : List Key} {k : Key} :
    (live.any fun k' => k'.idx == k.idx) = false ↔ ∀ k' ∈ live, k'.idx ≠ k.idx := by
  simp only [List.any_eq_false, beq_iff_eq, ne_eq]

theorem wfStep_create {α} {live live' : List Key} {k : Key} :
    wfStep (α := α) live (.create k) = some live' ↔ (∀ k' ∈ live, k'.idx ≠ k.idx) ∧ k :: live = live' :=
  Option.ite_none_left_eq_some.trans (and_congr (Bool.eq_false_iff.symm.trans any_idx_eq_false) Option.some_inj)

theorem wfStep_next {α} {live live' : List Key} {k : Key} {v : α} :
    wfStep live (.next k v) = some live' ↔ k ∈ live ∧ live = live' :=
  Option.ite_none_right_eq_some.trans (and_congr_right' Option.some_inj)

theorem wfStep_err {α} {live live' : List Key} {k : Key} {x : Err} :
    wfStep (α := α) live (.err k x) = some live' ↔ k ∈ live ∧ live = live' :=
  Option.ite_none_right_eq_some.trans (and_congr_right' Option.some_inj)

theorem wfStep_done {α} {live live' : List Key} {k : Key} :
    wfStep (α := α) live (.done k) = some live' ↔ k ∈ live ∧ live.erase k = live' :=
  Option.ite_none_right_eq_some.trans (and_congr_right' Option.some_inj)

theorem wfStep_fatal {α} {live live' : List Key} {x : Err} :
    wfStep (α := α) live (.fatal x) = some live' ↔ live = live' := Option.some_inj

/-- the Bool monitor is `isSome` of the monitor that returns the live set -/
theorem wfFrom_eq {α} : ∀ (t : List (Ev α)) (l : List Key), wfFrom l t = (wfLive l t).isSome := by
  intro t; induction t with
  | nil => intro l; rfl
  | cons e t ih =>
    intro l; simp only [wfFrom, wfLive]
    cases wfStep l e with
    | none => rfl
    | some l' => exact ih l'

theorem wf_iff {α} {t : List (Ev α)} : WF t ↔ ∃ l, wfLive [] t = some l := by
  rw [WF, wfFrom_eq, Option.isSome_iff_exists]

theorem wf_of_closed {α} {t : List (Ev α)} (hc : WFClosed t) : WF t := wf_iff.mpr ⟨[], hc⟩

theorem wfLive_cons {α} (l : List Key) (e : Ev α) (t : List (Ev α)) :
    wfLive l (e :: t) = (wfStep l e).bind fun l' => wfLive l' t := by
  show (match wfStep l e with | some l => wfLive l t | none => none) = _
  cases wfStep l e <;> rfl

theorem wfLive_singleton {α} (l : List Key) (e : Ev α) : wfLive l [e] = wfStep l e :=
  (wfLive_cons l e []).trans (Option.bind_fun_some _)

theorem wfLive_append {α} : ∀ (a b : List (Ev α)) (l : List Key),
    wfLive l (a ++ b) = (wfLive l a).bind (fun l' => wfLive l' b) := by
  intro a; induction a with
  | nil => intro b l; rfl
  | cons e a ih =>
    intro b l
    rw [List.cons_append, wfLive_cons, wfLive_cons, Option.bind_assoc]
    exact congrArg _ (funext (ih b))

theorem lifetime_wf {α} (k : Key) (xs : List α) : WFClosed ([Ev.create k] ++ xs.map (Ev.next k) ++ [Ev.done k]) := by
  have key : wfLive [k] (xs.map (Ev.next k) ++ [Ev.done k]) = some [] := by
    induction xs with
    | nil => exact (wfLive_singleton ..).trans (wfStep_done.mpr ⟨List.mem_singleton_self k, List.erase_cons_head ..⟩)
    | cons x xs ih =>
      simp only [List.map_cons, List.cons_append, wfLive, wfStep_next.mpr ⟨List.mem_singleton_self k, rfl⟩]
      exact ih
  simp only [WFClosed, List.cons_append, List.nil_append, wfLive, wfStep_create.mpr ⟨fun _ h => absurd h List.not_mem_nil, rfl⟩]
  exact key

/-- pairwise distinct slot indices: holds of the monitor's live set all along an accepted trace (`IdxDistinct.step`) -/
def IdxDistinct (l : List Key) : Prop := l.Pairwise (fun a b => a.idx ≠ b.idx)

theorem IdxDistinct.idx_ne {l : List Key} (hd : IdxDistinct l) {a b : Key} (ha : a ∈ l) (hb : b ∈ l) :
    a ≠ b → a.idx ≠ b.idx :=
  List.Pairwise.forall_of_forall_of_flip (R := fun a b : Key => a ≠ b → a.idx ≠ b.idx) (fun _ _ h => absurd rfl h)
    (hd.imp @fun a b h (_ : a ≠ b) => h) (hd.imp @fun a b h (_ : b ≠ a) e => h e.symm) ha hb

theorem IdxDistinct.nodup {l : List Key} (h : IdxDistinct l) : l.Nodup :=
  List.Pairwise.imp (fun hab heq => hab (by rw [heq])) h

theorem IdxDistinct.erase {l : List Key} (h : IdxDistinct l) (k : Key) : IdxDistinct (l.erase k) :=
  List.Pairwise.sublist List.erase_sublist h

theorem IdxDistinct.cons {l : List Key} {k : Key} (h : IdxDistinct l) (hf : ∀ k' ∈ l, k'.idx ≠ k.idx) :
    IdxDistinct (k :: l) :=
  List.pairwise_cons.mpr ⟨fun k' hk' heq => hf k' hk' heq.symm, h⟩

/-- `IdxDistinct.cons` with the hypothesis as the monitor tests it -/
theorem idxDistinct_cons {l : List Key} {k : Key} (h : IdxDistinct l)
    (hany : (l.any fun k' => k'.idx == k.idx) = false) : IdxDistinct (k :: l) :=
  h.cons (any_idx_eq_false.mp hany)

theorem IdxDistinct.step {α} {live live' : List Key} {e : Ev α} (h : IdxDistinct live)
    (hwf : wfStep live e = some live') : IdxDistinct live' := by
  cases e with
  | create k => obtain ⟨hf, rfl⟩ := wfStep_create.mp hwf; exact h.cons hf
  | next k v => obtain ⟨-, rfl⟩ := wfStep_next.mp hwf; exact h
  | err k x => obtain ⟨-, rfl⟩ := wfStep_err.mp hwf; exact h
  | done k => obtain ⟨-, rfl⟩ := wfStep_done.mp hwf; exact h.erase k
  | fatal x => cases wfStep_fatal.mp hwf; exact h

/-- `runSteps_congr` along the protocol monitor: `R` may depend on the monitor's live set, whose keys have
pairwise distinct slot indices all along; `P`: what else the events of the trace satisfy -/
theorem runSteps_eq_of_sim {S S' α O} {step : S → Ev α → S × List O} {step' : S' → Ev α → S' × List O}
    (R : List Key → S → S' → Prop) (P : Ev α → Prop)
    (h : ∀ {live live' s s' e}, IdxDistinct live → R live s s' → wfStep live e = some live' → P e →
      (step s e).2 = (step' s' e).2 ∧ R live' (step s e).1 (step' s' e).1) :
    ∀ (t : List (Ev α)) {live s s'}, IdxDistinct live → R live s s' → wfFrom live t = true → (∀ e ∈ t, P e) →
      runSteps step s t = runSteps step' s' t := fun t live _ _ hd hR hwf hP =>
  runSteps_congr (fun t s s' => ∃ live, IdxDistinct live ∧ R live s s' ∧ wfFrom live t = true ∧ ∀ e ∈ t, P e)
    (fun {e _ _ _} ⟨live, hd, hR, hwf, hP⟩ => by
      rw [wfFrom] at hwf
      cases hs : wfStep live e with
      | none => rw [hs] at hwf; cases hwf
      | some live' =>
        rw [hs] at hwf
        obtain ⟨h1, h2⟩ := h hd hR hs (hP e List.mem_cons_self)
        exact ⟨h1, live', hd.step hs, h2, hwf, fun e he => hP e (List.mem_cons_of_mem _ he)⟩)
    t ⟨live, hd, hR, hwf, hP⟩

section
variable {α β : Type} (L : LocalOp α β) {st : Key → Option L.σ} {k : Key}

theorem refStep_next_some {s : L.σ} (h : st k = some s) (v : α) :
    refStep L st (.next k v) = (upd st k (some (L.next s v).1), (L.next s v).2.map (liftOut k)) := by
  simp only [refStep, h]

theorem refStep_next_none (h : st k = none) (v : α) : refStep L st (.next k v) = (st, []) := by
  simp only [refStep, h]

theorem refStep_err_some {s : L.σ} (h : st k = some s) (x : Err) :
    refStep L st (.err k x) = (upd st k (some (L.onErr s x).1), (L.onErr s x).2.map (liftOut k)) := by
  simp only [refStep, h]

theorem refStep_err_none (h : st k = none) (x : Err) : refStep L st (.err k x) = (st, [.err k x]) := by
  simp only [refStep, h]

theorem refStep_done_some {s : L.σ} (h : st k = some s) :
    refStep L st (.done k) = (upd st k none, (L.fin s).map (liftOut k) ++ [.done k]) := by
  simp only [refStep, h]

theorem refStep_done_none (h : st k = none) : refStep L st (.done k) = (st, [.done k]) := by
  simp only [refStep, h]

end

/-- the store (addressed by `key[0]`) holds for every live key what the keyed reference state holds;
on keys that are not live the two are unrelated (the monitor admits no event for them but `create`,
which overwrites both) -/
def StoreAgree {σ} (live : List Key) (si : Nat → Option σ) (sr : Key → Option σ) : Prop :=
  ∀ k ∈ live, si k.idx = sr k

section
variable {σ : Type} {live : List Key} {si : Nat → Option σ} {sr : Key → Option σ} (h : StoreAgree live si sr)
include h

theorem StoreAgree.upd (hd : IdxDistinct live) {k : Key} (hk : k ∈ live) (v : Option σ) :
    StoreAgree live (Rx.upd si k.idx v) (Rx.upd sr k v) := by
  intro k' hk'
  by_cases hkk : k' = k
  · rw [hkk, upd_same, upd_same]
  · rw [upd_of_ne _ (hd.idx_ne hk' hk hkk), upd_of_ne _ hkk, h k' hk']

theorem StoreAgree.cons {k : Key} (hf : ∀ k' ∈ live, k'.idx ≠ k.idx) (v : Option σ) :
    StoreAgree (k :: live) (Rx.upd si k.idx v) (Rx.upd sr k v) := by
  intro k' hk'
  rcases List.mem_cons.mp hk' with rfl | hk'
  · rw [upd_same, upd_same]
  · rw [upd_of_ne _ (hf k' hk'), upd_of_ne _ (fun e => hf k' hk' (congrArg Key.idx e)), h k' hk']

theorem StoreAgree.erase (k : Key) : StoreAgree (live.erase k) si sr :=
  fun k' hk' => h k' (List.mem_of_mem_erase hk')

end

theorem lift_step {α β} (L : LocalOp α β) {live live' : List Key} {si : Nat → Option L.σ}
    {sr : Key → Option L.σ} {e : Ev α} (hd : IdxDistinct live) (hag : StoreAgree live si sr)
    (hwf : wfStep live e = some live') :
    (idxStep L si e).2 = (refStep L sr e).2 ∧ StoreAgree live' (idxStep L si e).1 (refStep L sr e).1 := by
  cases e with
  | create k =>
    obtain ⟨hf, rfl⟩ := wfStep_create.mp hwf
    exact ⟨rfl, hag.cons hf _⟩
  | next k v =>
    obtain ⟨hk, rfl⟩ := wfStep_next.mp hwf
    simp only [idxStep, refStep, hag k hk]
    cases sr k with
    | none => exact ⟨rfl, hag⟩
    | some s => exact ⟨rfl, hag.upd hd hk _⟩
  | err k x =>
    obtain ⟨hk, rfl⟩ := wfStep_err.mp hwf
    simp only [idxStep, refStep, hag k hk]
    cases sr k with
    | none => exact ⟨rfl, hag⟩
    | some s => exact ⟨rfl, hag.upd hd hk _⟩
  | done k =>
    obtain ⟨hk, rfl⟩ := wfStep_done.mp hwf
    simp only [idxStep, refStep, hag k hk]
    cases sr k with
    | none => exact ⟨rfl, hag.erase k⟩
    | some s => exact ⟨rfl, (hag.upd hd hk _).erase k⟩
  | fatal x =>
    cases wfStep_fatal.mp hwf
    exact ⟨rfl, hag⟩

/-- **base case of `impl_eq_ref`**: for every per-key operator, on every well-formed trace, the
index-addressed implementation emits, event by event, exactly what the keyed reference emits -/
theorem lift_eq {α β} (L : LocalOp α β) (t : List (Ev α)) (h : WF t) :
    (idxLift L).run t = (refLift L).run t :=
  runSteps_eq_of_sim (step := idxStep L) (step' := refStep L) StoreAgree (fun _ => True)
    (fun hd hag hwf _ => lift_step L hd hag hwf) t List.Pairwise.nil (fun _ hk => nomatch hk) h (fun _ _ => trivial)

theorem wfLive_outs {β} {k : Key} {l : List Key} (hk : k ∈ l) :
    ∀ os : List (LOut β), wfLive l (os.map (liftOut k)) = some l := by
  intro os; induction os with
  | nil => rfl
  | cons o os ih => cases o <;> simp only [List.map_cons, liftOut, wfLive, wfStep, hk, if_true, ih]

theorem ref_chunk_wf {α β} (L : LocalOp α β) {e : Ev α} {live live' : List Key}
    (st : Key → Option L.σ) (hwf : wfStep live e = some live') :
    wfLive live (refStep L st e).2 = some live' := by
  cases e with
  | create k => exact (wfLive_singleton ..).trans hwf
  | fatal x => exact (wfLive_singleton ..).trans hwf
  | next k x =>
    obtain ⟨hk, rfl⟩ := wfStep_next.mp hwf
    cases hs : st k with
    | none => rw [refStep_next_none L hs]; rfl
    | some s => rw [refStep_next_some L hs]; exact wfLive_outs hk _
  | err k x =>
    cases hs : st k with
    | none => rw [refStep_err_none L hs]; exact (wfLive_singleton ..).trans hwf
    | some s =>
      obtain ⟨hk, rfl⟩ := wfStep_err.mp hwf
      rw [refStep_err_some L hs]; exact wfLive_outs hk _
  | done k =>
    cases hs : st k with
    | none => rw [refStep_done_none L hs]; exact (wfLive_singleton ..).trans hwf
    | some s =>
      rw [refStep_done_some L hs, wfLive_append, wfLive_outs (wfStep_done.mp hwf).1]
      exact (wfLive_singleton ..).trans hwf

theorem ref_wfLive {α β} (L : LocalOp α β) :
    ∀ (t : List (Ev α)) (live l' : List Key) (st : Key → Option L.σ),
      wfLive live t = some l' → wfLive live (runSteps (refStep L) st t).flatten = some l' := by
  intro t
  induction t with
  | nil => intro live l' st h; exact h
  | cons e t ih =>
    intro live l' st h
    obtain ⟨live1, hs, h⟩ := Option.bind_eq_some_iff.mp ((wfLive_cons ..).symm.trans h)
    rw [runSteps, List.flatten_cons, wfLive_append, ref_chunk_wf L st hs]
    exact ih live1 l' _ h

theorem ref_wf {α β} (L : LocalOp α β) (t : List (Ev α)) (h : WF t) :
    WF ((refLift L).run t).flatten := by
  obtain ⟨l, hl⟩ := wf_iff.mp h
  exact wf_iff.mpr ⟨l, ref_wfLive L t [] l _ hl⟩

theorem ref_wf_closed {α β} (L : LocalOp α β) (t : List (Ev α)) (h : WFClosed t) :
    WFClosed ((refLift L).run t).flatten :=
  ref_wfLive L t [] [] (fun _ => none) h

end Rx
