import RxModel.Pipeline
/-!
# The run functions of `Event.lean` and `Plain.lean`

Pointwise updates (`upd_*`), list facts, the arithmetic of slot blocks (`d` slots per key), and equations of
`runSteps`, `runGroup`, `runRaw`, `runP`.  Two definitions: `runGroups` (a machine fed the output chunks of another)
and `stateAfter` (the state `runRaw` has reached).  Two proof principles: two step machines emit the same chunks
(`runSteps_congr`); a machine computes a list function (`outRaw_eq_spec`).  Last, `cmdStep` of `Pipeline.lean` case
by case.
-/
namespace Rx

theorem upd_same {κ σ} [DecidableEq κ] (f : κ → Option σ) (k : κ) (v : Option σ) : upd f k v k = v :=
  if_pos rfl

theorem upd_of_ne {κ σ} [DecidableEq κ] (f : κ → Option σ) {k k' : κ} (h : k' ≠ k) (v : Option σ) :
    upd f k v k' = f k' := if_neg h

theorem upd_eq_self {κ σ} [DecidableEq κ] {f : κ → Option σ} {k : κ} {v : Option σ} (h : f k = v) :
    upd f k v = f := by
  funext k'
  by_cases hk : k' = k
  · rw [hk, upd_same, h]
  · exact upd_of_ne f hk v

theorem upd_upd {κ σ} [DecidableEq κ] (f : κ → Option σ) (k : κ) (v w : Option σ) :
    upd (upd f k v) k w = upd f k w := by
  funext k'
  by_cases hk : k' = k
  · rw [hk, upd_same, upd_same]
  · rw [upd_of_ne _ hk, upd_of_ne _ hk, upd_of_ne _ hk]

theorem idx_cons (j : Nat) (k : Key) : Key.idx (j :: k) = j := rfl

theorem getD_set {α} (l : List α) (i j : Nat) (v d : α) :
    (l.set i v).getD j d = if i = j ∧ j < l.length then v else l.getD j d := by
  simp only [List.getD_eq_getElem?_getD, List.getElem?_set]
  by_cases h : i = j
  · subst h
    by_cases hl : i < l.length <;> simp [hl]
  · simp [h]

theorem flatten_map_nil {α β} (xs : List α) : (xs.map (fun _ => ([] : List β))).flatten = [] := by
  rw [List.map_const', List.flatten_replicate_nil]

theorem nodup_snoc {β} {l : List β} {a : β} (h : l.Nodup) (ha : a ∉ l) : (l ++ [a]).Nodup :=
  List.nodup_append.mpr ⟨h, List.pairwise_singleton _ _, fun _ hb _ hc e => ha (List.mem_singleton.mp hc ▸ e ▸ hb)⟩

theorem getElem?_snoc {β} (m : List β) (p : β) (j : Nat) : (m ++ [p])[j]? = if j = m.length then some p else m[j]? := by
  split
  · next h => rw [h, List.getElem?_concat_length]
  · next h =>
    rcases Nat.lt_or_gt_of_ne h with h | h
    · exact List.getElem?_append_left h
    · rw [List.getElem?_eq_none (by rw [List.length_append]; exact h), List.getElem?_eq_none (Nat.le_of_lt h)]

theorem take_drop_stable {α} (xs : List α) (x : α) (a w : Nat) (h : a + w ≤ xs.length) :
    ((xs ++ [x]).drop a).take w = (xs.drop a).take w := by
  rw [List.drop_append_of_le_length (Nat.le_trans (Nat.le_add_right a w) h),
    List.take_append_of_le_length (List.length_drop ▸ Nat.le_sub_of_add_le' h)]

theorem take_drop_last {α} (xs : List α) (x : α) (a w : Nat) (h : a + w = xs.length + 1) (hw : 0 < w) :
    ((xs ++ [x]).drop a).take w = xs.drop a ++ [x] := by
  have ha : a ≤ xs.length := Nat.le_of_lt_succ (Nat.lt_of_lt_of_eq (Nat.lt_add_of_pos_right hw) h)
  rw [List.drop_append_of_le_length ha]
  refine List.take_of_length_le (Nat.le_of_eq ?_)
  rw [List.length_append, List.length_drop, List.length_singleton, ← Nat.sub_add_comm ha, ← h,
    Nat.add_sub_cancel_left]

theorem succ_mul_le_of_lt (a b s : Nat) (h : a < b) : a * s + s ≤ b * s :=
  Nat.succ_mul a s ▸ Nat.mul_le_mul_right s h

theorem mem_range'_sub {a b j : Nat} (h : a ≤ b) : j ∈ List.range' a (b - a) ↔ a ≤ j ∧ j < b := by
  rw [List.mem_range'_1, Nat.add_sub_cancel' h]

/-- An operator that keeps `d` slots per key stores them in the block `k[0]*d ..< k[0]*d + d`: a slot
lies in the block of one slot index only -/
theorem block_inj {d a b j : Nat} (ha : a * d ≤ j ∧ j < a * d + d) (hb : b * d ≤ j ∧ j < b * d + d) : a = b :=
  (Nat.div_eq_of_lt_le ha.1 (Nat.succ_mul a d ▸ ha.2)).symm.trans (Nat.div_eq_of_lt_le hb.1 (Nat.succ_mul b d ▸ hb.2))

theorem slot_div (i d o : Nat) (ho : o < d) : (i * d + o) / d = i := by
  rw [Nat.mul_comm, Nat.mul_add_div (Nat.zero_lt_of_lt ho), Nat.div_eq_of_lt ho, Nat.add_zero]

theorem slot_inj {a b d o o' : Nat} (ho : o < d) (ho' : o' < d) (h : a * d + o = b * d + o') : a = b ∧ o = o' := by
  obtain rfl : a = b := (slot_div a d o ho).symm.trans (h ▸ slot_div b d o' ho')
  exact ⟨rfl, Nat.add_left_cancel h⟩

theorem mem_slots (d : Nat) (hd : 0 < d) (i j : Nat) : j ∈ (List.range d).map (fun o => i * d + o) ↔ j / d = i := by
  constructor
  · intro h
    obtain ⟨o, ho, rfl⟩ := List.mem_map.mp h
    exact slot_div i d o (List.mem_range.mp ho)
  · intro h
    refine List.mem_map.mpr ⟨j % d, List.mem_range.mpr (Nat.mod_lt j hd), ?_⟩
    subst h
    rw [Nat.mul_comm]
    exact Nat.div_add_mod j d

theorem runSteps_append {S E O} (step : S → E → S × List O) :
    ∀ (a b : List E) (s : S),
      runSteps step s (a ++ b) = runSteps step s a ++ runSteps step (finalState step s a) b := by
  intro a
  induction a with
  | nil => intro b s; rfl
  | cons e a ih => intro b s; exact congrArg (_ :: ·) (ih b _)

theorem runSteps_length {S E O} (step : S → E → S × List O) :
    ∀ (a : List E) (s : S), (runSteps step s a).length = a.length := by
  intro a; induction a with
  | nil => intro s; rfl
  | cons e a ih => intro s; exact congrArg (· + 1) (ih _)

theorem runGroup_eq {S E O} (step : S → E → S × List O) :
    ∀ (g : List E) (s : S),
      runGroup step s g = (finalState step s g, (runSteps step s g).flatten) := by
  intro g; induction g with
  | nil => intro s; rfl
  | cons e g ih => intro s; simp only [runGroup, finalState, runSteps, ih, List.flatten_cons]

theorem runGroup_append {S E O} (step : S → E → S × List O) :
    ∀ (a b : List E) (s : S),
      runGroup step s (a ++ b) =
        ((runGroup step (runGroup step s a).1 b).1, (runGroup step s a).2 ++ (runGroup step (runGroup step s a).1 b).2) := by
  intro a; induction a with
  | nil => intro b s; rfl
  | cons e a ih => intro b s; simp only [List.cons_append, runGroup, ih, List.append_assoc]

/-- the downstream machine of a composition: `gs` are the output chunks of the upstream machine, one per input event,
and each is consumed as one group (`comp_decompose`, `wrap_decompose`) -/
def runGroups {S E O} (step : S → E → S × List O) : S → List (List E) → List (List O)
  | _, [] => []
  | s, g :: gs => let r := runGroup step s g; r.2 :: runGroups step r.1 gs

theorem runGroups_congr {S S' E O} (step : S → E → S × List O) (step' : S' → E → S' × List O)
    (gs : List (List E)) (s : S) (s' : S')
    (h : runSteps step s gs.flatten = runSteps step' s' gs.flatten) :
    runGroups step s gs = runGroups step' s' gs := by
  induction gs generalizing s s' with
  | nil => rfl
  | cons g gs ih =>
    rw [List.flatten_cons, runSteps_append, runSteps_append] at h
    obtain ⟨h1, h2⟩ := List.append_inj h (by rw [runSteps_length, runSteps_length])
    simp only [runGroups, runGroup_eq, h1]
    rw [ih _ _ h2]

/-- the relation `R` between the two states may depend on the input still to come -/
theorem runSteps_congr {S T E O} {f : S → E → S × List O} {g : T → E → T × List O} (R : List E → S → T → Prop)
    (h : ∀ {e es s t}, R (e :: es) s t → (f s e).2 = (g t e).2 ∧ R es (f s e).1 (g t e).1) :
    ∀ (es : List E) {s : S} {t : T}, R es s t → runSteps f s es = runSteps g t es := by
  intro es
  induction es with
  | nil => intros; rfl
  | cons e es ih => intro s t r; rw [runSteps, runSteps, (h r).1, ih (h r).2]

theorem runSteps_rel {S T E O : Type} (f : S → E → S × List O) (g : T → E → T × List O) (R : S → T → Prop)
    (h : ∀ s t e, R s t → (f s e).2 = (g t e).2 ∧ R (f s e).1 (g t e).1) :
    ∀ (es : List E) (s : S) (t : T), R s t → runSteps f s es = runSteps g t es :=
  fun es _ _ => runSteps_congr (fun _ => R) (fun {e _ s t} => h s t e) es

theorem runRaw_nil {σ α β} (next : σ → α → σ × List β) (fin : σ → List β) (s : σ) :
    runRaw next fin s [] = ([], fin s) := rfl

theorem runRaw_cons {σ α β} (next : σ → α → σ × List β) (fin : σ → List β) (s : σ) (x : α) (xs : List α) :
    runRaw next fin s (x :: xs) =
      ((next s x).2 :: (runRaw next fin (next s x).1 xs).1, (runRaw next fin (next s x).1 xs).2) := rfl

/-- the state a machine run by `runRaw` has reached after `xs`.  It is `finalState next s xs` under a second name:
the `runRaw` equations below speak of `stateAfter`, those of `runSteps` and `runGroup` above of `finalState`, and no
lemma relates the two. -/
def stateAfter {σ α β} (next : σ → α → σ × List β) : σ → List α → σ
  | s, [] => s
  | s, x :: xs => stateAfter next (next s x).1 xs

theorem stateAfter_snoc {σ α β} (next : σ → α → σ × List β) : ∀ (xs : List α) (s : σ) (x : α),
    stateAfter next s (xs ++ [x]) = (next (stateAfter next s xs) x).1 := by
  intro xs
  induction xs with
  | nil => intro s x; rfl
  | cons y ys ih => intro s x; exact ih _ x

theorem runRaw_append {σ α β} (next : σ → α → σ × List β) (fin : σ → List β) :
    ∀ (xs ys : List α) (s : σ),
      runRaw next fin s (xs ++ ys) =
        ((runRaw next fin s xs).1 ++ (runRaw next fin (stateAfter next s xs) ys).1,
         (runRaw next fin (stateAfter next s xs) ys).2) := by
  intro xs
  induction xs with
  | nil => intro ys s; rfl
  | cons x xs ih => intro ys s; rw [List.cons_append, runRaw_cons, ih]; rfl

theorem runRaw_fst_length {σ α β} (next : σ → α → σ × List β) (fin : σ → List β) :
    ∀ (xs : List α) (s : σ), (runRaw next fin s xs).1.length = xs.length := by
  intro xs; induction xs with
  | nil => intro s; rfl
  | cons x xs ih => intro s; exact congrArg Nat.succ (ih _)

theorem runRaw_chunk_at {σ α β} (next : σ → α → σ × List β) (fin : σ → List β) (s : σ) (xs ys : List α) (x : α) :
    (runRaw next fin s (xs ++ x :: ys)).1[xs.length]? = some (next (stateAfter next s xs) x).2 := by
  rw [runRaw_append, ← runRaw_fst_length next fin xs s, List.getElem?_append_right (Nat.le_refl _), Nat.sub_self]
  rfl

theorem runRaw_snd {σ α β} (next : σ → α → σ × List β) (fin : σ → List β) :
    ∀ (xs : List α) (s : σ), (runRaw next fin s xs).2 = fin (stateAfter next s xs) := by
  intro xs; induction xs with
  | nil => intro s; rfl
  | cons x xs ih => intro s; exact ih _

theorem runRaw_map_state {σ τ α β : Type} (n1 : σ → α → σ × List β) (f1 : σ → List β)
    (n2 : τ → α → τ × List β) (f2 : τ → List β) (φ : τ → σ)
    (hn : ∀ t x, n1 (φ t) x = (φ (n2 t x).1, (n2 t x).2)) (hf : ∀ t, f1 (φ t) = f2 t) :
    ∀ (xs : List α) (t : τ), runRaw n1 f1 (φ t) xs = runRaw n2 f2 t xs := by
  intro xs
  induction xs with
  | nil => intro t; simp only [runRaw, hf]
  | cons x xs ih => intro t; simp only [runRaw, hn, ih]

/-- Everything a step machine started in `s` emits over the items `xs` and their completion, in
order.  A claim "the machine computes the list function `f`" is proved by giving `spec s xs`, what it
emits from ANY state, and checking that `spec` obeys the two equations of the run (`outRaw_eq_spec`). -/
def outRaw {σ α β : Type} (next : σ → α → σ × List β) (fin : σ → List β) (s : σ) (xs : List α) : List β :=
  (runRaw next fin s xs).1.flatten ++ (runRaw next fin s xs).2

section
variable {σ α β : Type} (next : σ → α → σ × List β) (fin : σ → List β)

theorem outRaw_nil (s : σ) : outRaw next fin s [] = fin s := rfl

theorem outRaw_cons (s : σ) (x : α) (xs : List α) :
    outRaw next fin s (x :: xs) = (next s x).2 ++ outRaw next fin (next s x).1 xs := by
  simp only [outRaw, runRaw, List.flatten_cons, List.append_assoc]

variable {next fin}

theorem outRaw_eq_spec (spec : σ → List α → List β)
    (hnil : ∀ s, fin s = spec s [])
    (hcons : ∀ s x xs, (next s x).2 ++ spec (next s x).1 xs = spec s (x :: xs)) :
    ∀ (xs : List α) (s : σ), outRaw next fin s xs = spec s xs
  | [], s => hnil s
  | x :: xs, s => by rw [outRaw_cons, outRaw_eq_spec spec hnil hcons xs, hcons]

theorem runRaw_fixed {s : σ} {f : α → List β} (h : ∀ x, next s x = (s, f x)) :
    ∀ xs : List α, runRaw next fin s xs = (xs.map f, fin s)
  | [] => rfl
  | x :: xs => by rw [runRaw_cons, h, runRaw_fixed h xs]; rfl

end

theorem runP_nil {α β} (P : PlainOp α β) (s : P.σ) : P.runP s [] = ([], P.fin s) := rfl

theorem runP_cons_go {α β} (P : PlainOp α β) (s : P.σ) (x : α) (xs : List α)
    (h : stopsP (P.next s x).2 = false) :
    P.runP s (x :: xs) =
      ((P.next s x).2.1 :: (P.runP (P.next s x).1 xs).1, (P.runP (P.next s x).1 xs).2) :=
  if_neg (ne_true_of_eq_false h)

theorem runP_cons_stop {α β} (P : PlainOp α β) (s : P.σ) (x : α) (xs : List α)
    (h : stopsP (P.next s x).2 = true) :
    P.runP s (x :: xs) = ((P.next s x).2.1 :: xs.map (fun _ => []), []) :=
  if_pos h

section cmdStep
variable {α β : Type} (L : LocalOp α β) {st : Nat → Option L.σ} {j : Nat}

theorem cmdStep_itm_some {s : L.σ} (h : st j = some s) (x : α) :
    cmdStep L st (.itm j x) = (upd st j (some (L.next s x).1), (L.next s x).2) := by
  simp only [cmdStep, h]

theorem cmdStep_itm_none (h : st j = none) (x : α) : cmdStep L st (.itm j x) = (st, []) := by
  simp only [cmdStep, h]

theorem cmdStep_cls_some {s : L.σ} (h : st j = some s) : cmdStep L st (.cls j) = (upd st j none, L.fin s) := by
  simp only [cmdStep, h]

theorem cmdStep_cls_none (h : st j = none) : cmdStep L st (.cls j) = (st, []) := by
  simp only [cmdStep, h]

end cmdStep

end Rx
