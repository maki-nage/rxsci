import RxModel.Lemmas.LocalRun
/-!
# Plain execution versus keyed (local) execution, compositionally

The total outcome of a plain operator over the items `xs` of a stream that then completes or dies
(`PlainOp.tot`), versus everything a local operator emits for an input stream `os` and its
completion (`LocalOp.fed`, Lemmas/LocalRun.lean).  `AgreeT P L` is the compositional form of
"plain = keyed":

* if the plain run does not raise, both deliver the same items in the same order;
* if it raises, what it delivered before is a prefix of what the keyed run delivers.

It is closed under sequential composition (`AgreeT.comp`) because both compositions are function
composition on whole output streams: the keyed one exactly (`fed_comp`), the plain one up to what
an observer can see (`tot_comp`, through `PlainOp.eatK`: the downstream operator run over the
upstream's whole output; an operator that completes early stops its upstream, which masks later
errors).  A primitive enters by a step simulation (`PrimSim`, `primSim_agreeT`); `agreeT_out` leads back
from `AgreeT` to the statement about `out` / `outL`.

Apart from this, `runP_eq_runL`: chunk-by-chunk equality of a plain and a keyed run for operators that
neither stop nor raise (the plain tee of Lemmas/TeePlain.lean, `scan` in Props/C09).
-/
namespace Rx

def hasFatal {β} (l : List (LOut β)) : Bool :=
  l.any (fun o => match o with | .fatal _ => true | _ => false)

/-- the precondition of C01, "the plain run does not raise".  Not `NoFatal` of Lemmas/Implements.lean, which is
about event traces (and has `noFatal_nil` / `_cons` / `_append`); the only lemma about this one is `noFatal_iff`. -/
def noFatal {β} (l : List (LOut β)) : Bool := l.all (fun o => match o with | .fatal _ => false | _ => true)

/-- items delivered before the first `on_error` -/
def itemsT {β} (l : List (LOut β)) : List β := items (truncFatal l)

@[simp] theorem hasFatal_nil {β} : hasFatal ([] : List (LOut β)) = false := rfl
@[simp] theorem hasFatal_item {β} (b : β) (l : List (LOut β)) : hasFatal (.item b :: l) = hasFatal l := rfl
@[simp] theorem hasFatal_err {β} (e : Err) (l : List (LOut β)) : hasFatal (.err e :: l) = hasFatal l := rfl
@[simp] theorem hasFatal_fatal {β} (e : Err) (l : List (LOut β)) : hasFatal (.fatal e :: l) = true := rfl
@[simp] theorem hasFatal_append {β} (a b : List (LOut β)) : hasFatal (a ++ b) = (hasFatal a || hasFatal b) :=
  List.any_append

@[simp] theorem itemsT_nil {β} : itemsT ([] : List (LOut β)) = [] := rfl
@[simp] theorem itemsT_item {β} (b : β) (l : List (LOut β)) : itemsT (.item b :: l) = b :: itemsT l := rfl
@[simp] theorem itemsT_err {β} (e : Err) (l : List (LOut β)) : itemsT (.err e :: l) = itemsT l := rfl
@[simp] theorem itemsT_fatal {β} (e : Err) (l : List (LOut β)) : itemsT (.fatal e :: l) = [] := rfl

theorem itemsT_append {β} (a b : List (LOut β)) :
    itemsT (a ++ b) = if hasFatal a then itemsT a else items a ++ itemsT b := by
  induction a with
  | nil => rfl
  | cons o a ih =>
    cases o with
    | item x => exact (congrArg (x :: ·) ih).trans (apply_ite (x :: ·) _ _ _)
    | err e => exact ih
    | fatal e => rfl

theorem itemsT_prefix_items {β} (a : List (LOut β)) : itemsT a <+: items a := by
  induction a with
  | nil => exact List.prefix_refl _
  | cons o a ih =>
    cases o with
    | item b => exact (List.prefix_cons_inj b).2 ih
    | err e => exact ih
    | fatal e => exact List.nil_prefix

theorem hasFatal_truncFatal {β} (a : List (LOut β)) : hasFatal (truncFatal a) = hasFatal a := by
  induction a with
  | nil => rfl
  | cons o a ih => cases o <;> first | exact ih | rfl

theorem truncFatal_nofatal {β} {l : List (LOut β)} (h : hasFatal l = false) : truncFatal l = l := by
  induction l with
  | nil => rfl
  | cons o l ih =>
    cases o with
    | item b => exact congrArg (_ :: ·) (ih h)
    | err e => exact congrArg (_ :: ·) (ih h)
    | fatal e => cases h

theorem itemsT_nofatal {β} {a : List (LOut β)} (h : hasFatal a = false) : itemsT a = items a :=
  congrArg items (truncFatal_nofatal h)

theorem noFatal_iff {β} {l : List (LOut β)} : noFatal l = true ↔ hasFatal l = false := by
  induction l with
  | nil => exact ⟨fun _ => rfl, fun _ => rfl⟩
  | cons o l ih =>
    cases o with
    | item _ => exact ih
    | err _ => exact ih
    | fatal _ => exact ⟨nofun, nofun⟩

/-- equal to an observer, who is gone after the first `on_error`: the same items up to there, and both raise
or neither does (which error is not compared) -/
def OEq {β} (a b : List (LOut β)) : Prop := itemsT a = itemsT b ∧ hasFatal a = hasFatal b

theorem OEq.refl {β} (a : List (LOut β)) : OEq a a := ⟨rfl, rfl⟩
theorem OEq.symm {β} {a b : List (LOut β)} (h : OEq a b) : OEq b a := ⟨h.1.symm, h.2.symm⟩
theorem OEq.trans {β} {a b c : List (LOut β)} (h1 : OEq a b) (h2 : OEq b c) : OEq a c :=
  ⟨h1.1.trans h2.1, h1.2.trans h2.2⟩

theorem OEq.append_left {β} (a : List (LOut β)) {b b' : List (LOut β)} (h : OEq b b') : OEq (a ++ b) (a ++ b') :=
  ⟨by rw [itemsT_append, itemsT_append, h.1], by rw [hasFatal_append, hasFatal_append, h.2]⟩

theorem OEq.drop_after_fatal {β} (a b : List (LOut β)) (h : hasFatal a = true) : OEq (a ++ b) a :=
  ⟨by rw [itemsT_append, h, if_pos rfl], by rw [hasFatal_append, h, Bool.true_or]⟩

theorem OEq.of_eq {β} {a b : List (LOut β)} (h : a = b) : OEq a b := h ▸ OEq.refl a

theorem OEq.err_cons {β} (e : Err) (a : List (LOut β)) : OEq (.err e :: a) a := ⟨rfl, rfl⟩

/-- how a plain run goes on after a step: the chunk `r.1`, then `rest` unless the flag `r.2` says that the chunk ended the stream -/
def thenP {β} (r : List (LOut β) × Bool) (rest : List (LOut β)) : List (LOut β) :=
  if r.2 then r.1 else r.1 ++ rest

/-- an error in the chunk ends the stream as well as the flag does, and to an observer that makes no
difference -/
theorem OEq.chunk {β} {o : List (LOut β)} {d : Bool} {a b : List (LOut β)} (h : OEq a b) :
    OEq (thenP (o, stopsP (o, d)) a) (thenP (o, d) b) := by
  cases d with
  | true => exact OEq.refl _
  | false =>
    show OEq (if hasFatal o = true then o else o ++ a) (o ++ b)
    cases hf : hasFatal o with
    | true => exact (OEq.drop_after_fatal o b hf).symm
    | false => exact OEq.append_left o h

theorem hasFatal_map_item {α} (xs : List α) : hasFatal (xs.map LOut.item) = false := by
  induction xs with
  | nil => rfl
  | cons _ _ ih => exact ih

def Silent {α β} (L : LocalOp α β) (s : L.σ) : Prop := ∀ os, items (L.fed s os) = []

/-- how the input of a plain operator ends: `on_completed`, or an `on_error` of its upstream -/
inductive Term where
  | complete
  | die
  deriving DecidableEq

/-- continuation-passing run: `k` is what happens at the end of the input if still running -/
def PlainOp.goK {α β} (P : PlainOp α β) (k : P.σ → List (LOut β)) : P.σ → List α → List (LOut β)
  | s, [] => k s
  | s, x :: xs => if stopsP (P.next s x).2 then (P.next s x).2.1 else (P.next s x).2.1 ++ P.goK k (P.next s x).1 xs

/-- the end of the input: completion (→ `fin`) or an upstream error passing through -/
def PlainOp.endK {α β} (P : PlainOp α β) : Term → P.σ → List (LOut β)
  | .complete => P.fin
  | .die => fun _ => [.fatal "upstream"]

def PlainOp.go {α β} (P : PlainOp α β) (s : P.σ) (xs : List α) (t : Term) : List (LOut β) := P.goK (P.endK t) s xs

def PlainOp.tot {α β} (P : PlainOp α β) (xs : List α) (t : Term) : List (LOut β) :=
  if stopsP P.start then P.start.1 else P.start.1 ++ P.go P.init xs t

theorem stopsP_eq {β} (r : List (LOut β) × Bool) : stopsP r = (r.2 || hasFatal r.1) := rfl

theorem go_cons {α β} (P : PlainOp α β) (s : P.σ) (x : α) (xs : List α) (t : Term) :
    P.go s (x :: xs) t = thenP ((P.next s x).2.1, stopsP (P.next s x).2) (P.go (P.next s x).1 xs t) := rfl

theorem tot_eq {α β} (P : PlainOp α β) (xs : List α) (t : Term) :
    P.tot xs t = thenP (P.start.1, stopsP P.start) (P.go P.init xs t) := rfl

theorem goK_append {α β} (P : PlainOp α β) (k : P.σ → List (LOut β)) : ∀ (xs ys : List α) (s : P.σ),
    P.goK k s (xs ++ ys) = P.goK (fun s' => P.goK k s' ys) s xs := by
  intro xs
  induction xs with
  | nil => intro ys s; rfl
  | cons x xs ih => intro ys s; simp only [List.cons_append, PlainOp.goK, ih]

theorem runP_go {α β} (P : PlainOp α β) : ∀ (xs : List α) (s : P.σ),
    (P.runP s xs).1.flatten ++ (P.runP s xs).2 = P.go s xs .complete := by
  intro xs
  induction xs with
  | nil => intro s; rfl
  | cons x xs ih =>
    intro s
    show _ = if stopsP (P.next s x).2 then _ else _ ++ P.go (P.next s x).1 xs .complete
    cases h : stopsP (P.next s x).2 with
    | true => rw [runP_cons_stop _ _ _ _ h, List.flatten_cons, flatten_map_nil, if_pos rfl, List.append_nil, List.append_nil]
    | false => rw [runP_cons_go _ _ _ _ h, List.flatten_cons, List.append_assoc, ih, if_neg Bool.false_ne_true]

theorem runP_eq_runL {α β} {P : PlainOp α β} {L : LocalOp α β} (R : P.σ → L.σ → Prop)
    (hn : ∀ sp sl x, R sp sl → (P.next sp x).2 = ((L.next sl x).2, false) ∧ hasFatal (L.next sl x).2 = false ∧
      R (P.next sp x).1 (L.next sl x).1)
    (hf : ∀ sp sl, R sp sl → P.fin sp = L.fin sl) :
    ∀ (xs : List α) (sp : P.σ) (sl : L.σ), R sp sl → P.runP sp xs = L.runL sl xs := by
  intro xs
  induction xs with
  | nil => intro sp sl h; exact congrArg (Prod.mk []) (hf sp sl h)
  | cons x xs ih =>
    intro sp sl h
    obtain ⟨h1, h2, h3⟩ := hn sp sl x h
    rw [runP_cons_go P sp x xs (by rw [h1, stopsP_eq, h2]; rfl), ih _ _ h3, h1]
    rfl

theorem out_eq_tot {α β} (P : PlainOp α β) (xs : List α) : P.out xs = truncFatal (P.tot xs .complete) := by
  simp only [PlainOp.out, PlainOp.run, PlainOp.tot]
  cases stopsP P.start with
  | true => rw [if_pos rfl, if_pos rfl, List.flatten_cons, flatten_map_nil, List.append_nil, List.append_nil]
  | false => rw [if_neg Bool.false_ne_true, if_neg Bool.false_ne_true, List.flatten_cons, List.append_assoc, runP_go]

theorem feedP_item {β γ} (P : PlainOp β γ) (s : P.σ) (b : β) (r : List (LOut β)) :
    feedP P s (.item b :: r) =
      if (P.next s b).2.2 then ((P.next s b).1, (P.next s b).2.1, true)
      else ((feedP P (P.next s b).1 r).1, (P.next s b).2.1 ++ (feedP P (P.next s b).1 r).2.1,
        (feedP P (P.next s b).1 r).2.2) := rfl

theorem feedP_fatal {β γ} (P : PlainOp β γ) (os : List (LOut β)) : ∀ (s : P.σ),
    hasFatal os = true → (feedP P s os).2.2 = true := by
  induction os with
  | nil => intro _ h; cases h
  | cons o os ih =>
    intro s h
    cases o with
    | item b =>
      rw [feedP_item]
      split
      · rfl
      · exact ih _ h
    | err e => exact ih s h
    | fatal e => rfl

/-- `P` fed a stretch `os` of what its upstream emits (an upstream error ends it), then `k` unless
it has completed: to `feedP` what `goK` is to `next`.  `P.eatK P.fin s os`, the upstream's whole
output and then its completion, is the plain counterpart of `L.fed s os`; the completion step of
`compPlain` is `eatK fin` of the upstream's completion chunk. -/
def PlainOp.eatK {β γ} (P : PlainOp β γ) (k : P.σ → List (LOut γ)) (s : P.σ) (os : List (LOut β)) : List (LOut γ) :=
  thenP (feedP P s os).2 (k (feedP P s os).1)

theorem eatK_item {β γ} (P : PlainOp β γ) (k : P.σ → List (LOut γ)) (s : P.σ) (b : β) (r : List (LOut β)) :
    P.eatK k s (.item b :: r) = thenP (P.next s b).2 (P.eatK k (P.next s b).1 r) := by
  unfold PlainOp.eatK thenP
  rw [feedP_item]
  generalize feedP P (P.next s b).1 r = q
  cases (P.next s b).2.2 with
  | true => rfl
  | false =>
    cases q.2.2 with
    | true => rfl
    | false => exact List.append_assoc _ _ _

theorem eatK_err {β γ} (P : PlainOp β γ) (k : P.σ → List (LOut γ)) (s : P.σ) (e : Err) (r : List (LOut β)) :
    P.eatK k s (.err e :: r) = .err e :: P.eatK k s r := by
  show (if (feedP P s r).2.2 then _ else _) = _ :: if (feedP P s r).2.2 then _ else _
  cases (feedP P s r).2.2 <;> rfl

theorem eatK_append {β γ} (P : PlainOp β γ) (k : P.σ → List (LOut γ)) (a b : List (LOut β)) : ∀ (s : P.σ),
    P.eatK k s (a ++ b) = P.eatK (fun s' => P.eatK k s' b) s a := by
  induction a with
  | nil => intro s; rfl
  | cons o a ih =>
    intro s
    cases o with
    | item x => rw [List.cons_append, eatK_item, eatK_item, ih]
    | err e => rw [List.cons_append, eatK_err, eatK_err, ih]
    | fatal e => rfl

/-- how the downstream operator sees the end of its upstream -/
def termOf {β} (l : List (LOut β)) : Term := if hasFatal l then .die else .complete

theorem eat_go {β γ} (P : PlainOp β γ) (os : List (LOut β)) : ∀ (s : P.σ),
    OEq (P.go s (itemsT os) (termOf os)) (P.eatK P.fin s os) := by
  induction os with
  | nil => intro s; exact OEq.refl _
  | cons o os ih =>
    intro s
    cases o with
    | item b => rw [eatK_item]; exact OEq.chunk (ih _)
    | err e => rw [eatK_err]; exact (ih s).trans (OEq.err_cons e _).symm
    | fatal e => exact ⟨rfl, rfl⟩

/-- what the downstream operator `P` makes of one chunk `r` of its upstream (outputs, completed flag),
when `P` itself has so far emitted `p.1` in this step and `p.2` says whether it had completed.  `compPlain` does this
at subscription (`p` is `P`'s own start) and for every item (`p = ([], false)`). -/
def pipeChunk {β γ} (P : PlainOp β γ) (p : List (LOut γ) × Bool) (s : P.σ) (r : List (LOut β) × Bool) :
    P.σ × List (LOut γ) × Bool :=
  if p.2 then (s, p.1, true)
  else if (feedP P s r.1).2.2 then ((feedP P s r.1).1, p.1 ++ (feedP P s r.1).2.1, true)
  else if r.2 then ((feedP P s r.1).1, p.1 ++ (feedP P s r.1).2.1 ++ P.fin (feedP P s r.1).1, true)
  else ((feedP P s r.1).1, p.1 ++ (feedP P s r.1).2.1, false)

theorem compPlain_next {α β γ} (P1 : PlainOp α β) (P2 : PlainOp β γ) (s1 : P1.σ) (s2 : P2.σ) (x : α) :
    (compPlain P1 P2).next (s1, s2) x =
      (((P1.next s1 x).1, (pipeChunk P2 ([], false) s2 (P1.next s1 x).2).1), (pipeChunk P2 ([], false) s2 (P1.next s1 x).2).2) := by
  show (if (feedP P2 s2 (P1.next s1 x).2.1).2.2 then _ else if (P1.next s1 x).2.2 then _ else _) = _
  unfold pipeChunk
  generalize feedP P2 s2 (P1.next s1 x).2.1 = q
  cases q.2.2 with
  | true => rfl
  | false => cases (P1.next s1 x).2.2 <;> rfl

theorem compPlain_start {α β γ} (P1 : PlainOp α β) (P2 : PlainOp β γ) :
    (compPlain P1 P2).start =
      ((pipeChunk P2 P2.start P2.init P1.start).2.1, (pipeChunk P2 P2.start P2.init P1.start).2.2) := rfl

theorem compPlain_init {α β γ} (P1 : PlainOp α β) (P2 : PlainOp β γ) :
    (compPlain P1 P2).init = (P1.init, (pipeChunk P2 P2.start P2.init P1.start).1) := rfl

theorem pipeChunk_eat {β γ} (P : PlainOp β γ) (p : List (LOut γ) × Bool) (s : P.σ) (r : List (LOut β) × Bool)
    (rest : List (LOut β)) :
    thenP p (P.eatK P.fin s (thenP (r.1, stopsP r) rest)) =
      thenP (pipeChunk P p s r).2 (P.eatK P.fin (pipeChunk P p s r).1 rest) := by
  obtain ⟨o, d⟩ := r
  unfold thenP
  have e : P.eatK P.fin s (if stopsP (o, d) then o else o ++ rest) =
      if (feedP P s o).2.2 then (feedP P s o).2.1
      else if d then (feedP P s o).2.1 ++ P.fin (feedP P s o).1
      else (feedP P s o).2.1 ++ P.eatK P.fin (feedP P s o).1 rest := by
    cases d with
    | true => rfl
    | false =>
      cases hf : hasFatal o with
      | true =>
        -- an upstream error within the chunk ends `P`
        rw [if_pos (feedP_fatal P o s hf), if_pos (show stopsP (o, false) = true from hf)]
        exact if_pos (feedP_fatal P o s hf)
      | false => rw [if_neg (ne_true_of_eq_false (show stopsP (o, false) = false from hf))]; exact eatK_append P P.fin o rest s
  rw [e]
  unfold pipeChunk
  cases p.2 with
  | true => rfl
  | false =>
    cases (feedP P s o).2.2 with
    | true => rfl
    | false => cases d <;> exact (List.append_assoc _ _ _).symm

theorem go_comp {α β γ} (P1 : PlainOp α β) (P2 : PlainOp β γ) (t : Term) (xs : List α) : ∀ (s1 : P1.σ) (s2 : P2.σ),
    OEq ((compPlain P1 P2).go (s1, s2) xs t) (P2.eatK P2.fin s2 (P1.go s1 xs t)) := by
  induction xs with
  | nil => intro s1 s2; cases t <;> exact OEq.refl _
  | cons x xs ih =>
    intro s1 s2
    rw [go_cons P1, go_cons (compPlain P1 P2) (s1, s2), compPlain_next]
    exact (OEq.chunk (ih _ _)).trans (OEq.of_eq (pipeChunk_eat P2 ([], false) s2 _ _).symm)

theorem tot_comp {α β γ} (P1 : PlainOp α β) (P2 : PlainOp β γ) (xs : List α) (t : Term) :
    OEq ((compPlain P1 P2).tot xs t) (P2.tot (itemsT (P1.tot xs t)) (termOf (P1.tot xs t))) := by
  refine OEq.trans ?_ (OEq.chunk (eat_go P2 (P1.tot xs t) P2.init)).symm
  rw [tot_eq, tot_eq, compPlain_start, compPlain_init, pipeChunk_eat]
  exact OEq.chunk (go_comp P1 P2 t xs _ _)

/-- operators emit nothing at subscription unless they are complete at once (`take(0)`) -/
def StartOK {α β} (P : PlainOp α β) : Prop := P.start.2 = false → P.start.1 = []

theorem startOK_comp {α β γ} (P1 : PlainOp α β) (P2 : PlainOp β γ) (h1 : StartOK P1) (h2 : StartOK P2) :
    StartOK (compPlain P1 P2) := by
  show (pipeChunk P2 P2.start P2.init P1.start).2.2 = false → (pipeChunk P2 P2.start P2.init P1.start).2.1 = []
  unfold pipeChunk
  cases hd2 : P2.start.2 with
  | true => exact fun h => nomatch h
  | false =>
    cases hd1 : P1.start.2 with
    | true => cases (feedP P2 P2.init P1.start.1).2.2 <;> exact fun h => nomatch h
    | false =>
      rw [h1 hd1, h2 hd2]
      exact fun _ => rfl

/-- the two clauses of the file header: `po` is what a plain run emits, `lo` what the keyed run emits -/
def AgreesOut {β} (po lo : List (LOut β)) : Prop :=
  itemsT po <+: items lo ∧ (hasFatal po = false → items po = items lo)

/-- `xs`: the items the plain operator receives before its upstream completes or dies; `os`: the
whole input of the keyed one.  An upstream that dies has delivered only a prefix of the items. -/
def AgreeT {α β} (P : PlainOp α β) (L : LocalOp α β) : Prop :=
  ∀ (xs : List α) (os : List (LOut α)) (t : Term),
    (t = .complete → xs = items os) → (t = .die → xs <+: items os) →
    AgreesOut (P.tot xs t) (L.fed L.init os)

theorem AgreesOut.of_OEq {β} {po po' lo : List (LOut β)} (h : OEq po po') (a : AgreesOut po' lo) : AgreesOut po lo :=
  ⟨h.1 ▸ a.1, fun hf => by
    have hf' : hasFatal po' = false := h.2 ▸ hf
    rw [← itemsT_nofatal hf, h.1, itemsT_nofatal hf']
    exact a.2 hf'⟩

/-- composition needs nothing of the operators but their agreement -/
theorem AgreeT.comp {α β γ} {P1 : PlainOp α β} {P2 : PlainOp β γ} {L1 : LocalOp α β} {L2 : LocalOp β γ}
    (a1 : AgreeT P1 L1) (a2 : AgreeT P2 L2) : AgreeT (compPlain P1 P2) (compLocal L1 L2) := by
  intro xs os t hc hd
  rw [show (compLocal L1 L2).init = (L1.init, L2.init) from rfl, fed_comp]
  have h1 := a1 xs os t hc hd
  refine AgreesOut.of_OEq (tot_comp P1 P2 xs t) (a2 _ _ _ (fun ht => ?_) (fun _ => h1.1))
  have hf : hasFatal (P1.tot xs t) = false := by
    cases h : hasFatal (P1.tot xs t) with
    | false => rfl
    | true => rw [termOf, h] at ht; cases ht
  rw [itemsT_nofatal hf]
  exact h1.2 hf

set_option linter.unusedVariables false in
/-- **composition law**: if each stage agrees with its keyed twin, so does the pipeline (`AgreeT.comp`;
`s1`, `s2` are not used) -/
theorem agreeT_comp {α β γ} (P1 : PlainOp α β) (P2 : PlainOp β γ) (L1 : LocalOp α β) (L2 : LocalOp β γ)
    (s1 : StartOK P1) (s2 : StartOK P2) (a1 : AgreeT P1 L1) (a2 : AgreeT P2 L2) :
    AgreeT (compPlain P1 P2) (compLocal L1 L2) :=
  a1.comp a2

theorem AgreesOut.of_items {β} {po lo : List (LOut β)} (h : items po = items lo) : AgreesOut po lo :=
  ⟨h ▸ itemsT_prefix_items po, fun _ => h⟩

theorem AgreesOut.dead {β} {e : Err} {lo : List (LOut β)} : AgreesOut [.fatal e] lo :=
  ⟨List.nil_prefix, fun h => nomatch h⟩

theorem AgreesOut.congr_right {β} {po lo lo' : List (LOut β)} (a : AgreesOut po lo) (h : items lo' = items lo) :
    AgreesOut po lo' :=
  ⟨h ▸ a.1, fun hf => (a.2 hf).trans h.symm⟩

theorem AgreesOut.append {β} {a a' b b' : List (LOut β)} (hf : hasFatal a = false) (hi : items a = items a')
    (h : AgreesOut b b') : AgreesOut (a ++ b) (a' ++ b') := by
  refine ⟨?_, fun hfab => ?_⟩
  · rw [itemsT_append, hf, if_neg Bool.false_ne_true, items_append, hi]
    exact (List.prefix_append_right_inj _).2 h.1
  · rw [hasFatal_append, hf] at hfab
    rw [items_append, items_append, hi, h.2 hfab]

theorem AgreesOut.append_right {β} {a a' : List (LOut β)} (h : AgreesOut a a') (hf : hasFatal a = true) {b' : List (LOut β)} :
    AgreesOut a (a' ++ b') :=
  ⟨items_append a' b' ▸ h.1.trans (List.prefix_append _ _), fun h' => nomatch hf.symm.trans h'⟩

/-- step simulation between a plain operator and its keyed twin.  `R` relates the states while
both run; when the plain operator completes early the keyed one must be silent from then on. -/
structure PrimSim {α β} (P : PlainOp α β) (L : LocalOp α β) where
  R : P.σ → L.σ → Prop
  start : (P.start = ([], false) ∧ R P.init L.init) ∨ (P.start = ([], true) ∧ Silent L L.init)
  step : ∀ sp sl x, R sp sl → AgreesOut (P.next sp x).2.1 (L.next sl x).2 ∧
    (hasFatal (P.next sp x).2.1 = false →
      if (P.next sp x).2.2 then Silent L (L.next sl x).1 else R (P.next sp x).1 (L.next sl x).1)
  err : ∀ sp sl e, R sp sl → items (L.onErr sl e).2 = [] ∧ R sp (L.onErr sl e).1
  fin : ∀ sp sl, R sp sl → AgreesOut (P.fin sp) (L.fin sl)

theorem PrimSim.run {α β} {P : PlainOp α β} {L : LocalOp α β} (S : PrimSim P L) (t : Term) (os : List (LOut α)) :
    ∀ (xs : List α) (sp : P.σ) (sl : L.σ), S.R sp sl →
      xs <+: items os → (t = .complete → xs = items os) →
      AgreesOut (P.go sp xs t) (L.fed sl os) := by
  induction os with
  | nil =>
    intro xs sp sl hR hp _
    rw [List.prefix_nil.mp hp]
    cases t with
    | complete => exact S.fin sp sl hR
    | die => exact .dead
  | cons o os ih =>
    intro xs sp sl hR hp hc
    cases o with
    | err e =>
      rw [fed_err]
      exact (ih xs sp _ (S.err sp sl e hR).2 hp hc).congr_right (by rw [items_append, (S.err sp sl e hR).1]; rfl)
    | fatal e => exact (ih xs sp sl hR hp hc).congr_right rfl
    | item b =>
      cases xs with
      | nil =>
        -- only possible when the plain input dies here
        cases t with
        | complete => exact nomatch hc rfl
        | die => exact .dead
      | cons x xs =>
        obtain ⟨rfl, hp'⟩ := List.cons_prefix_cons.mp hp
        have ih := fun h => ih xs (P.next sp x).1 (L.next sl x).1 h hp' (fun h => (List.cons.inj (hc h)).2)
        obtain ⟨ha, hn⟩ := S.step sp sl x hR
        rw [fed_item, go_cons, stopsP_eq]
        cases hf : hasFatal (P.next sp x).2.1 with
        | true =>
          -- the plain chunk raises and the plain run ends with it; the keyed run goes on
          rw [Bool.or_true]
          exact ha.append_right hf
        | false =>
          have hn := hn hf
          cases hd : (P.next sp x).2.2 with
          | true =>
            -- the plain operator completes with this chunk; the keyed one is silent from here on
            rw [hd] at hn
            exact ha.congr_right (by rw [items_append, hn os, List.append_nil])
          | false =>
            rw [hd] at hn
            exact .append hf (ha.2 hf) (ih hn)

theorem primSim_agreeT {α β} (P : PlainOp α β) (L : LocalOp α β) (S : PrimSim P L) : AgreeT P L := by
  intro xs os t hc hd
  rcases S.start with ⟨hs, hR⟩ | ⟨hs, hsil⟩
  · rw [tot_eq, hs]
    refine S.run t os xs _ _ hR ?_ hc
    cases t with
    | complete => exact hc rfl ▸ List.prefix_rfl
    | die => exact hd rfl
  · rw [tot_eq, hs]; exact .of_items (hsil os).symm

theorem primSim_startOK {α β} (P : PlainOp α β) (L : LocalOp α β) (S : PrimSim P L) : StartOK P := by
  intro _
  rcases S.start with ⟨hs, _⟩ | ⟨hs, _⟩ <;> rw [hs]

/-- from the compositional form back to the statement of the property: when the plain run of the
pipeline does not raise, the keyed run delivers the same items in the same order -/
theorem agreeT_out {α β} (P : PlainOp α β) (L : LocalOp α β) (a : AgreeT P L) (xs : List α)
    (h : hasFatal (P.out xs) = false) : items (P.out xs) = items (L.outL xs) := by
  rw [out_eq_tot, hasFatal_truncFatal] at h
  rw [out_eq_tot, outL_eq_fed, truncFatal_nofatal h]
  exact (a xs (xs.map .item) .complete (fun _ => (items_map_item xs).symm) (fun h => nomatch h)).2 h

end Rx
