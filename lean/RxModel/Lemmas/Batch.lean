import RxModel.Parquet
import RxModel.Lemmas.LocalRun
/-!
# `chunksOf n` and `batch(n)`

`chunksOf n` (RxModel/Parquet.lean) is the list definition of `batch(n)`: its lemmas here free it of
the fuel of `chunksAux` and give the induction along its two cases, a full chunk or a short rest
(`chunksOf_induction`).
`batchG n` is `batch(n)` as the code composes it (scan | filter | map): it emits the chunks of
`chunksOf n` (`batchG_items`), and its scan state holds the items after the last full chunk
(`bNext_pending`).
-/
namespace Rx

theorem chunksAux_nil {α} (n f : Nat) : chunksAux n f ([] : List α) = [] := by cases f <;> rfl

theorem length_drop_cons_le {α} (n : Nat) (hn : 0 < n) (x : α) (xs : List α) : ((x :: xs).drop n).length ≤ xs.length := by
  rw [List.length_drop, List.length_cons]; exact Nat.sub_le_of_le_add (Nat.add_le_add_left hn _)

theorem chunksAux_fuel {α} (n : Nat) (hn : 0 < n) : ∀ (f g : Nat) (xs : List α), xs.length ≤ f → xs.length ≤ g →
    chunksAux n f xs = chunksAux n g xs
  | _, _, [], _, _ => by rw [chunksAux_nil, chunksAux_nil]
  | f + 1, g + 1, x :: xs, hf, hg => by
    have hd := length_drop_cons_le n hn x xs
    rw [chunksAux, chunksAux, chunksAux_fuel n hn f g _ (Nat.le_trans hd (Nat.le_of_succ_le_succ hf))
      (Nat.le_trans hd (Nat.le_of_succ_le_succ hg))]

theorem chunksOf_nil {α} (n : Nat) : chunksOf n ([] : List α) = [] := rfl

theorem chunksOf_cons {α} (n : Nat) (hn : 0 < n) (x : α) (xs : List α) :
    chunksOf n (x :: xs) = (x :: xs).take n :: chunksOf n ((x :: xs).drop n) :=
  congrArg (_ :: ·) (chunksAux_fuel n hn _ _ _ (length_drop_cons_le n hn x xs) (Nat.le_refl _))

theorem chunksOf_full {α} (n : Nat) (hn : 0 < n) (l r : List α) (hl : l.length = n) :
    chunksOf n (l ++ r) = l :: chunksOf n r := by
  cases l with
  | nil => exact absurd hl (Nat.ne_of_lt hn)
  | cons x l => rw [List.cons_append, chunksOf_cons n hn, ← List.cons_append, ← hl, List.take_left, List.drop_left]

theorem chunksOf_short {α} (n : Nat) (hn : 0 < n) (l : List α) (h : l.length ≤ n) :
    chunksOf n l = if l = [] then [] else [l] := by
  cases l with
  | nil => rfl
  | cons x l => rw [chunksOf_cons n hn, List.take_of_length_le h, List.drop_eq_nil_of_le h]; rfl

theorem chunksOf_induction {α} (n : Nat) (hn : 0 < n) {P : List α → Prop} (short : ∀ l, l.length ≤ n → P l)
    (full : ∀ l r, l.length = n → r ≠ [] → P r → P (l ++ r)) (xs : List α) : P xs := by
  generalize hm : xs.length = m
  induction m using Nat.strongRecOn generalizing xs with
  | ind m ih =>
    by_cases h : xs.length ≤ n
    · exact short xs h
    · rw [← List.take_append_drop n xs]
      exact full _ _ (List.length_take_of_le (Nat.le_of_not_le h)) (fun e => h (List.drop_eq_nil_iff.mp e))
        (ih _ (by rw [← hm, List.length_drop]; exact Nat.sub_lt (Nat.zero_lt_of_lt (Nat.lt_of_not_le h)) hn) _ rfl)

theorem chunksOf_flatten {α} (n : Nat) (hn : 0 < n) (xs : List α) : (chunksOf n xs).flatten = xs := by
  induction xs using chunksOf_induction n hn with
  | short l h => rw [chunksOf_short n hn l h]; split <;> simp [*]
  | full l r hl _ ih => rw [chunksOf_full n hn l r hl, List.flatten_cons, ih]

/-- the statement's characterisation of the chunks: their concatenation is the input, every chunk is
non-empty and at most `n` long, and every chunk but the last is exactly `n` long -/
theorem chunksOf_spec {α} (n : Nat) (hn : 0 < n) (xs : List α) :
    (chunksOf n xs).flatten = xs ∧ (∀ c ∈ chunksOf n xs, c ≠ [] ∧ c.length ≤ n) ∧
    (∀ c ∈ (chunksOf n xs).dropLast, c.length = n) := by
  refine ⟨chunksOf_flatten n hn xs, ?_⟩
  induction xs using chunksOf_induction n hn with
  | short l h => rw [chunksOf_short n hn l h]; by_cases hl : l = [] <;> simp [hl, h]
  | full l r hl hr ih =>
    -- the rest is non-empty, so it has a chunk, and `l` is not the last one
    have hne : chunksOf n r ≠ [] := fun e => hr (by rw [← chunksOf_flatten n hn r, e]; rfl)
    rw [chunksOf_full n hn l r hl, List.dropLast_cons_of_ne_nil hne]
    exact ⟨List.forall_mem_cons.mpr ⟨⟨List.ne_nil_of_length_pos (hl ▸ hn), Nat.le_of_eq hl⟩, ih.1⟩,
      List.forall_mem_cons.mpr ⟨hl, ih.2⟩⟩

theorem chunksOf_length {α} (n : Nat) (hn : 0 < n) (xs : List α) :
    (chunksOf n xs).length = (xs.length + n - 1) / n := by
  induction xs using chunksOf_induction n hn with
  | short l h =>
    rw [chunksOf_short n hn l h]
    cases l with
    | nil => rw [List.length_nil, Nat.zero_add, Nat.div_eq_of_lt (Nat.sub_lt hn Nat.one_pos)]; rfl
    | cons x l =>
      rw [List.length_cons, Nat.add_right_comm, Nat.add_sub_cancel, Nat.add_div_right _ hn, Nat.div_eq_of_lt h]
      rfl
  | full l r hl _ ih =>
    rw [chunksOf_full n hn l r hl, List.length_cons, ih, List.length_append, hl, Nat.add_comm n,
      Nat.sub_add_comm (Nat.le_trans hn (Nat.le_add_left _ _)), Nat.add_div_right _ hn]

/-! ### batch(n) = chunksOf n

`batchG n` is brought to one machine `bNext`/`bFin` on the scan state (`batchG_sim`), item by item,
because C11 speaks of the output of each single item; the state is read through `pendingOf`. -/

/-- what `batch(n)` does with one item, and at completion, on its scan state -/
def bNext {α} (n : Nat) (s : Option (List α × Bool)) (x : α) : Option (List α × Bool) × List (LOut (List α)) :=
  let a := batchAcc n (s.getD ([], false)) x
  (some a, if a.2 then [.item a.1] else [])

def bFin {α} (s : Option (List α × Bool)) : List (LOut (List α)) :=
  let t := batchTerm (s.getD (([] : List α), false))
  if t.2 then [.item t.1] else []

theorem batchG_sim {α : Type} (n : Nat) (xs : List α) (s : Option (List α × Bool)) :
    runRaw (batchG n).next (batchG n).fin ((s, ()), ()) xs = runRaw (bNext n) bFin s xs := by
  refine runRaw_map_state _ _ _ _ (fun s => ((s, ()), ())) (fun t x => ?_) (fun t => ?_) xs s
  · show (batchG n).next ((t, ()), ()) x = _
    simp only [batchG, compLocal, scanOp, scanNext, bNext]
    generalize batchAcc n (t.getD ([], false)) x = a
    obtain ⟨b, fl⟩ := a
    cases fl <;> rfl
  · show (batchG n).fin ((t, ()), ()) = _
    simp only [batchG, compLocal, scanOp, scanFin, bFin]
    generalize batchTerm (t.getD ([], false)) = a
    obtain ⟨b, fl⟩ := a
    cases fl <;> rfl

/-- pending items of a state: nothing after a completed batch -/
def pendingOf {α} (s : Option (List α × Bool)) : List α :=
  match s with
  | none => []
  | some (b, fl) => if fl then [] else b

theorem pendingOf_true {α} (b : List α) : pendingOf (some (b, true)) = [] := rfl
theorem pendingOf_false {α} (b : List α) : pendingOf (some (b, false)) = b := rfl

theorem bNext_eq {α} (n : Nat) (s : Option (List α × Bool)) (x : α) :
    bNext n s x = (some (pendingOf s ++ [x], (pendingOf s ++ [x]).length == n),
      if (pendingOf s ++ [x]).length == n then [.item (pendingOf s ++ [x])] else []) := by
  cases s with
  | none => rfl
  | some bf => obtain ⟨b, fl⟩ := bf; cases fl <;> rfl

theorem bFin_eq {α} (s : Option (List α × Bool)) :
    bFin s = if pendingOf s = [] then [] else [.item (pendingOf s)] := by
  cases s with
  | none => rfl
  | some bf => obtain ⟨b, fl⟩ := bf; cases fl <;> cases b <;> rfl

theorem bNext_run {α : Type} (n : Nat) (hn : 0 < n) : ∀ (xs : List α) (s : Option (List α × Bool)),
    (pendingOf s).length < n → outRaw (bNext n) bFin s xs = (chunksOf n (pendingOf s ++ xs)).map .item
  | [], s, hp => by
    rw [outRaw_nil, bFin_eq, List.append_nil, chunksOf_short n hn _ (Nat.le_of_lt hp)]
    split <;> rfl
  | x :: xs, s, hp => by
    rw [outRaw_cons, bNext_eq, List.append_cons _ x xs]
    by_cases h : (pendingOf s ++ [x]).length = n
    · -- `by exact`: elaborated once `rw` has fixed the state `_`
      rw [beq_iff_eq.mpr h, chunksOf_full n hn _ xs h, bNext_run n hn xs _ (by exact hn)]
      rfl
    · have hlt : (pendingOf s ++ [x]).length < n := Nat.lt_of_le_of_ne (by rw [List.length_append]; exact hp) h
      rw [beq_eq_false_iff_ne.mpr h, bNext_run n hn xs _ (by exact hlt)]
      rfl

theorem batchG_items {α : Type} (n : Nat) (hn : 0 < n) (xs : List α) :
    items ((batchG n).outL xs) = chunksOf n xs := by
  calc items ((batchG n).outL xs) = items (outRaw (bNext n) bFin none xs) :=
        congrArg (fun r => items (r.1.flatten ++ r.2)) (batchG_sim n xs none)
    _ = chunksOf n xs := by rw [bNext_run n hn xs none hn]; exact items_map_item _

theorem bNext_pending {α : Type} (n : Nat) (hn : 0 < n) : ∀ (xs : List α) (s : Option (List α × Bool)),
    (pendingOf s).length < n →
    pendingOf (stateAfter (bNext n) s xs) = (pendingOf s ++ xs).drop ((pendingOf s ++ xs).length / n * n) := by
  intro xs
  induction xs with
  | nil => intro s hp; rw [stateAfter, List.append_nil, Nat.div_eq_of_lt hp, Nat.zero_mul, List.drop_zero]
  | cons x xs ih =>
    intro s hp
    rw [stateAfter, bNext_eq, List.append_cons _ x xs]
    by_cases hfull : (pendingOf s ++ [x]).length = n
    · -- a full batch: nothing is pending after it, and `(m + n) / n * n = m / n * n + n` drops it first
      have hlen : ((pendingOf s ++ [x]) ++ xs).length = xs.length + n := by
        rw [List.length_append, hfull, Nat.add_comm]
      rw [beq_iff_eq.mpr hfull, ih _ (by rw [pendingOf_true]; exact hn), pendingOf_true, List.nil_append, hlen,
        Nat.add_div_right _ hn, Nat.add_mul, Nat.one_mul, Nat.add_comm _ n, ← List.drop_drop, List.drop_left' hfull]
    · have hlt : (pendingOf s ++ [x]).length < n := Nat.lt_of_le_of_ne (by rw [List.length_append]; exact hp) hfull
      rw [beq_eq_false_iff_ne.mpr hfull, ih _ (by rw [pendingOf_false]; exact hlt), pendingOf_false]

end Rx
