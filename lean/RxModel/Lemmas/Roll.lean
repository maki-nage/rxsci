import RxModel.Lemmas.Obs
import RxModel.Lemmas.Local
import RxModel.Lemmas.Split
/-!
# The ring of `roll` (window ≠ stride) for one parent key

What C05 and the nested refinement of `roll` (Lemmas/SimRoll.lean) rest on.  The invariant `RInv`: slot
`o` holds `n0` iff `n0 = j*s` for a window `j` with `j % d = o` that is open after `|xs|` items; the
observer's open list of that slot is `xs.drop n0`; `c` windows are closed.  It holds at the start
(`inv_init`), is kept by every item (`inv_step`) and so holds along a run (`runObs_inv`).  `inv_step`
reads the per-item loop off `deliver_slots` (the ring) and `obs_deliver` (the observer), and the window
arithmetic off `recv` / `openAt`.  That a ring of `d` slots is enough is `mod_inj` (`recv_unique`,
`slot_free`); the walk of the flush over the offsets `(first + o) % d` (`ringOffs_nodup`,
`mem_ringOffs`) is taken up in Lemmas/RollFlush.lean and Lemmas/SimRoll.lean.
-/
namespace Rx

/-! The loops of `deliver` and `closings` make `f` passes, at the offsets `o ≤ o' < o + f`.  `f + 1`
passes from `o` are the pass at `o` (`loop_head`) and `f` passes from `o + 1` (`loop_tail`,
`loop_tail_iff`). -/

theorem loop_tail {o o' f : Nat} (h1 : o + 1 ≤ o') (h2 : o' < o + 1 + f) :
    o ≤ o' ∧ o' < o + (f + 1) ∧ o' ≠ o :=
  ⟨Nat.le_of_succ_le h1, Nat.add_right_comm o 1 f ▸ h2, Nat.ne_of_gt h1⟩

theorem loop_head (o f : Nat) : o ≤ o ∧ o < o + (f + 1) :=
  ⟨Nat.le_refl o, Nat.lt_add_of_pos_right (Nat.succ_pos f)⟩

theorem loop_tail_iff {o o' : Nat} (f : Nat) (h : o' ≠ o) :
    (o ≤ o' ∧ o' < o + (f + 1)) ↔ (o + 1 ≤ o' ∧ o' < o + 1 + f) :=
  ⟨fun ⟨a, b⟩ => ⟨Nat.lt_of_le_of_ne a (Ne.symm h), Nat.add_right_comm o 1 f ▸ b⟩,
    fun ⟨a, b⟩ => ⟨(loop_tail a b).1, (loop_tail a b).2.1⟩⟩

theorem deliver_slots {α} (w n : Nat) (x : α) :
    ∀ (f o : Nat) (sl : Slots) (o' : Nat),
      (deliver w n x f o sl).1 o' =
        if o ≤ o' ∧ o' < o + f then
          (match sl o' with
           | some n0 => if n - n0 + 1 = w then none else some n0
           | none => none)
        else sl o' := by
  intro f
  induction f with
  | zero => intro o sl o'; exact (if_neg fun h => Nat.not_lt.mpr h.1 h.2).symm
  | succ f ih =>
    intro o sl o'
    -- the pass at `o` rewrites slot `o` only, and the later passes neither read nor write it
    have hpass : (deliver w n x (f + 1) o sl).1 = (deliver w n x f (o + 1) (upd sl o (match sl o with
        | some n0 => if n - n0 + 1 = w then none else some n0 | none => none))).1 := by
      rw [deliver]
      cases hs : sl o with
      | none => exact congrArg (fun sl => (deliver w n x f (o + 1) sl).1) (upd_eq_self hs).symm
      | some n0 =>
        by_cases hc : n - n0 + 1 = w
        · simp only [hc, if_true]
        · simp only [hc, if_false, upd_eq_self hs]
    rw [hpass, ih]
    by_cases h : o' = o
    · subst h; rw [if_neg fun h => Nat.not_succ_le_self _ h.1, if_pos (loop_head o' f), upd_same]
    · rw [upd_of_ne _ h]
      simp only [loop_tail_iff f h]

/-- what a pass of `deliver` at item `n` leaves in a slot that held `v` (the `match` of `deliver_slots`):
the slot keeps its window unless this item completes it -/
theorem kept_eq_some_iff (v : Option Nat) (n w n0 : Nat) :
    (match v with | some m => if n - m + 1 = w then none else some m | none => none) = some n0 ↔
      v = some n0 ∧ n - n0 + 1 ≠ w := by
  cases v with
  | none => simp
  | some m => by_cases hc : n - m + 1 = w <;> simp [hc] <;> rintro rfl <;> exact hc

/-- the test `deliver` applies to an occupied slot, as a `Bool`: item number `n` completes the window
that started with item `n0`.  The statements below spell it out, `n - n0 + 1 = w`.  (`TsCfg.closes` is
something else, the closing mapper of `time_split`.) -/
def closes (w n n0 : Nat) : Bool := n - n0 + 1 == w

/-- the windows that the loop of `deliver` over the slots `o, …, o+f-1` completes at item `n`, in slot
order, each with `x` appended: what the loop adds to the observer's `closed` (`obs_deliver`) -/
def closings {α} (w n : Nat) (x : α) : (f o : Nat) → Slots → (Nat → Option (List α)) → List (List α)
  | 0, _, _, _ => []
  | f+1, o, sl, op =>
    (match sl o with
     | some n0 => if n - n0 + 1 = w then [((op o).map (· ++ [x])).getD []] else []
     | none => []) ++ closings w n x f (o+1) sl op

theorem closings_congr {α} (w n : Nat) (x : α) (f o : Nat) (sl sl' : Slots) (op op' : Nat → Option (List α))
    (h : ∀ o', o ≤ o' → o' < o + f → sl o' = sl' o' ∧ op o' = op' o') :
    closings w n x f o sl op = closings w n x f o sl' op' := by
  induction f generalizing o with
  | zero => rfl
  | succ f ih =>
    have h0 := h o (loop_head o f).1 (loop_head o f).2
    rw [closings, closings, h0.1, h0.2,
      ih (o + 1) fun o' h1 h2 => h o' (loop_tail h1 h2).1 (loop_tail h1 h2).2.1]

theorem closings_none {α} (w n : Nat) (x : α) (f o : Nat) (sl : Slots) (op : Nat → Option (List α))
    (h : ∀ o', o ≤ o' → o' < o + f → ∀ n0, sl o' = some n0 → n - n0 + 1 ≠ w) :
    closings w n x f o sl op = [] := by
  induction f generalizing o with
  | zero => rfl
  | succ f ih =>
    rw [closings, ih (o + 1) fun o' h1 h2 => h o' (loop_tail h1 h2).1 (loop_tail h1 h2).2.1,
      List.append_nil]
    cases hs : sl o with
    | none => rfl
    | some n0 => exact if_neg (h o (loop_head o f).1 (loop_head o f).2 n0 hs)

theorem closings_one {α} (w n : Nat) (x : α) :
    ∀ (f o : Nat) (sl : Slots) (op : Nat → Option (List α)) (os n0s : Nat),
      o ≤ os → os < o + f → sl os = some n0s → n - n0s + 1 = w →
      (∀ o', o ≤ o' → o' < o + f → o' ≠ os → ∀ n0, sl o' = some n0 → n - n0 + 1 ≠ w) →
      closings w n x f o sl op = [((op os).map (· ++ [x])).getD []] := by
  intro f
  induction f with
  | zero => intro o sl op os n0s h1 h2; exact absurd h2 (Nat.not_lt.mpr h1)
  | succ f ih =>
    intro o sl op os n0s h1 h2 hs hc hother
    rw [closings]
    by_cases ho : os = o
    · -- the closing slot is the one of this pass; no later pass closes anything
      subst ho
      rw [closings_none w n x f (os + 1) sl op fun o' a b =>
          hother o' (loop_tail a b).1 (loop_tail a b).2.1 (loop_tail a b).2.2, List.append_nil, hs]
      exact if_pos hc
    · -- this pass closes nothing; the closing slot is among the later ones
      rw [ih (o + 1) sl op os n0s (Nat.lt_of_le_of_ne h1 (Ne.symm ho)) ((Nat.add_right_comm o 1 f).symm ▸ h2) hs hc fun o' a b =>
          hother o' (loop_tail a b).1 (loop_tail a b).2.1]
      cases hso : sl o with
      | none => rfl
      | some n0 =>
        exact congrArg (· ++ _) (if_neg (hother o (loop_head o f).1 (loop_head o f).2 (Ne.symm ho) n0 hso))

theorem obs_deliver {α} (w n : Nat) (x : α) :
    ∀ (f o : Nat) (sl : Slots) (ob : Obs α),
      (obsRun ob (deliver w n x f o sl).2).closed = ob.closed ++ closings w n x f o sl ob.opn ∧
      ∀ o', (obsRun ob (deliver w n x f o sl).2).opn o' =
        if o ≤ o' ∧ o' < o + f then
          (match sl o' with
           | some n0 => if n - n0 + 1 = w then none else (ob.opn o').map (· ++ [x])
           | none => ob.opn o')
        else ob.opn o' := by
  intro f
  induction f with
  | zero => intro o sl ob; exact ⟨(List.append_nil _).symm, fun o' => (if_neg fun h => Nat.not_lt.mpr h.1 h.2).symm⟩
  | succ f ih =>
    intro o sl ob
    -- the pass at `o`: slot `o` and the observer's lifetime `o` change, nothing else does
    have hpass : ∃ sl' ob', obsRun ob (deliver w n x (f + 1) o sl).2 = obsRun ob' (deliver w n x f (o + 1) sl').2 ∧
        (∀ o', o' ≠ o → sl' o' = sl o' ∧ ob'.opn o' = ob.opn o') ∧
        ob'.opn o = (match sl o with
          | some n0 => if n - n0 + 1 = w then none else (ob.opn o).map (· ++ [x])
          | none => ob.opn o) ∧
        ob'.closed ++ closings w n x f (o + 1) sl ob.opn = ob.closed ++ closings w n x (f + 1) o sl ob.opn := by
      rw [deliver, closings]
      cases hs : sl o with
      | none => exact ⟨sl, ob, rfl, fun _ _ => ⟨rfl, rfl⟩, rfl, rfl⟩
      | some n0 =>
        by_cases hc : n - n0 + 1 = w
        · refine ⟨upd sl o none, obsStep (obsStep ob (.itm o x)) (.cls o), ?_, fun o' h => ?_, ?_, ?_⟩
          · simp only [hc, if_true]; rfl
          · simp only [obsStep, upd, h, if_false, and_self]
          · simp only [obsStep, upd, hc, if_true]
          · simp only [obsStep, hc, if_true, List.append_assoc]
        · refine ⟨sl, obsStep ob (.itm o x), ?_, fun o' h => ?_, ?_, ?_⟩
          · simp only [hc, if_false]; rfl
          · simp only [obsStep, h, if_false, and_self]
          · simp only [obsStep, hc, if_true, if_false]
          · simp only [obsStep, hc, if_false, List.nil_append]
    obtain ⟨sl', ob', h1, h2, h3, h4⟩ := hpass
    obtain ⟨ihc, iho⟩ := ih (o + 1) sl' ob'
    rw [h1]
    refine ⟨?_, fun o' => ?_⟩
    · rw [ihc, closings_congr w n x f (o + 1) sl' sl ob'.opn ob.opn fun o' h _ => h2 o' (Nat.ne_of_gt h), h4]
    · rw [iho]
      by_cases h : o' = o
      · subst h; rw [if_neg fun h => Nat.not_succ_le_self _ h.1, if_pos (loop_head o' f), h3]
      · rw [(h2 o' h).1, (h2 o' h).2]
        simp only [loop_tail_iff f h]

set_option linter.unusedVariables false in
/-- (`h` is not used: the subtraction is truncated) -/
theorem dvd_sub_of_mod_eq (d a b : Nat) (h : a ≤ b) (hm : a % d = b % d) : d ∣ (b - a) :=
  Nat.dvd_of_mod_eq_zero (Nat.sub_mod_eq_zero_of_mod_eq hm.symm)

/-- residues mod `d` tell apart any two numbers less than `d` apart: what lets a ring of `d` slots hold
`d` consecutive windows -/
theorem mod_inj {d a b : Nat} (hm : a % d = b % d) (hab : a < b + d) (hba : b < a + d) : a = b := by
  have key : ∀ a b, a ≤ b → a % d = b % d → b < a + d → b ≤ a := fun a b h hm hlt =>
    Nat.sub_eq_zero_iff_le.mp
      (Nat.eq_zero_of_dvd_of_lt (dvd_sub_of_mod_eq d a b h hm) (Nat.sub_lt_left_of_lt_add h hlt))
  rcases Nat.le_total a b with h | h
  · exact Nat.le_antisymm h (key a b h hm hba)
  · exact Nat.le_antisymm (key b a h hm.symm hab) h

theorem mod_add_inj (d first o1 o2 : Nat) (h1 : o1 < d) (h2 : o2 < d)
    (h : (first + o1) % d = (first + o2) % d) : o1 = o2 :=
  have key : ∀ {a b}, a < d → first + a < first + b + d := fun h =>
    Nat.lt_of_lt_of_eq (Nat.add_lt_add_left (Nat.lt_add_left _ h) first) (Nat.add_assoc ..).symm
  Nat.add_left_cancel (mod_inj h (key h1) (key h2))

theorem ringOffs_nodup (d first : Nat) : ((List.range d).map fun o => (first + o) % d).Nodup :=
  have hr : (List.range d).Pairwise (fun a b => a ≠ b ∧ a < d ∧ b < d) :=
    List.Pairwise.imp_of_mem (fun ha hb hne => ⟨hne, List.mem_range.mp ha, List.mem_range.mp hb⟩) List.nodup_range
  hr.map _ fun a b h heq => h.1 (mod_add_inj d first a b h.2.1 h.2.2 heq)

theorem mem_ringOffs {d first j : Nat} (hd : 0 < d) : j ∈ (List.range d).map (fun o => (first + o) % d) ↔ j < d := by
  rw [List.mem_map]
  constructor
  · rintro ⟨o, _, rfl⟩; exact Nat.mod_lt _ hd
  · intro hj
    have hr : first % d < d := Nat.mod_lt _ hd
    -- `o = j - first` modulo `d`
    refine ⟨(j + (d - first % d)) % d, List.mem_range.mpr (Nat.mod_lt _ hd), ?_⟩
    rw [Nat.add_mod_mod, ← Nat.mod_add_mod, Nat.add_left_comm, Nat.add_sub_cancel' (Nat.le_of_lt hr),
      Nat.add_mod_right, Nat.mod_eq_of_lt hj]

/-- window `j` receives item number `n` -/
def recv (w s n j : Nat) : Prop := j * s ≤ n ∧ n < j * s + w
/-- window `j` is open after `n` items have been consumed -/
def openAt (w s n j : Nat) : Prop := j * s < n ∧ n < j * s + w

theorem recv_unique (w s d j1 j2 n : Nat) (hd : w ≤ d * s)
    (h1 : recv w s n j1) (h2 : recv w s n j2) (hm : j1 % d = j2 % d) : j1 = j2 := by
  -- windows that receive the same item start less than `w ≤ d * s` items apart
  have key : ∀ a b, a * s ≤ n → n < b * s + w → a < b + d := fun a b ha hb =>
    Nat.lt_of_mul_lt_mul_right (a := s)
      (Nat.add_mul b d s ▸ Nat.lt_of_le_of_lt ha (Nat.lt_of_lt_of_le hb (Nat.add_le_add_left hd _)))
  exact mod_inj hm (key j1 j2 h1.1 h2.2) (key j2 j1 h2.1 h1.2)

theorem recv_closes_iff {w s n j : Nat} (h : recv w s n j) : n - j * s + 1 = w ↔ j * s + w = n + 1 := by
  rw [← Nat.sub_add_comm h.1, Nat.sub_eq_iff_eq_add (Nat.le_succ_of_le h.1), Nat.add_comm, eq_comm]

theorem openAt_succ_iff (w s n j : Nat) : openAt w s (n + 1) j ↔ recv w s n j ∧ n - j * s + 1 ≠ w := by
  constructor
  · intro h
    have hr : recv w s n j := ⟨Nat.le_of_lt_succ h.1, Nat.lt_of_succ_lt h.2⟩
    exact ⟨hr, fun hc => Nat.lt_irrefl _ ((recv_closes_iff hr).mp hc ▸ h.2)⟩
  · intro ⟨hr, hc⟩
    exact ⟨Nat.lt_succ_of_le hr.1, Nat.lt_of_le_of_ne hr.2 fun e => hc ((recv_closes_iff hr).mpr e.symm)⟩

theorem recv_of_closes {w s n j : Nat} (hw : 0 < w) (h : j * s + w = n + 1) : recv w s n j :=
  ⟨Nat.le_of_lt_succ (Nat.lt_of_lt_of_eq (Nat.lt_add_of_pos_right hw) h), Nat.lt_of_lt_of_eq (Nat.lt_succ_self n) h.symm⟩

theorem div_mul_of_mod_zero (n s : Nat) (hm : n % s = 0) : n / s * s = n :=
  Nat.div_mul_cancel (Nat.dvd_of_mod_eq_zero hm)

theorem recv_start {w s n : Nat} (hw : 0 < w) (hm : n % s = 0) : recv w s n (n / s) :=
  have h := div_mul_of_mod_zero n s hm
  ⟨Nat.le_of_eq h, Nat.lt_of_lt_of_eq (Nat.lt_add_of_pos_right hw) (congrArg (· + w) h.symm)⟩

/-- the window that closes at item `n` is window number `c` -/
theorem closing_is_c (w s n c j : Nat) (hs : 0 < s)
    (hc : ∀ j, j < c ↔ j * s + w ≤ n) (hj : j * s + w = n + 1) : j = c := by
  refine Nat.le_antisymm (Nat.le_of_not_lt fun h => ?_) (Nat.le_of_not_lt fun h => ?_)
  · -- `c * s + w < j * s + w = n + 1`: window `c` would be complete already
    have := Nat.lt_of_lt_of_le (Nat.lt_add_of_pos_right hs) (succ_mul_le_of_lt c j s h)
    exact Nat.lt_irrefl c ((hc c).mpr (Nat.le_of_lt_succ (Nat.lt_of_lt_of_eq (Nat.add_lt_add_right this w) hj)))
  · exact Nat.not_succ_le_self n (Nat.le_trans (Nat.le_of_eq hj.symm) ((hc j).mp h))

/-- count of closed windows advances by exactly the window that completes now -/
theorem cnt_step (w s n c : Nat) (hs : 0 < s)
    (hc : ∀ j, j < c ↔ j * s + w ≤ n) :
    ∀ j, j < (if c * s + w = n + 1 then c + 1 else c) ↔ j * s + w ≤ n + 1 := by
  intro j
  split
  · next e => rw [← e, Nat.add_le_add_iff_right, Nat.mul_le_mul_right_iff hs, Nat.lt_succ_iff]
  · next e =>
    rw [hc j]
    exact ⟨Nat.le_succ_of_le, fun h => Nat.lt_succ_iff.mp
      (Nat.lt_of_le_of_ne h fun h' => e (closing_is_c w s n c j hs hc h' ▸ h'))⟩

/-- besides `slots` and `opn` (see the head of the file): slots `≥ d` are never written (`outside`); `c` is
the number of complete windows (`cnt`), and `closed` lists exactly those, windows `0, …, c-1`, in order
(`(xs.drop (j * s)).take w` is `window w s xs j` of Spec.lean, unfolded) -/
structure RInv {α} (w s d : Nat) (xs : List α) (st : Nat × Slots) (ob : Obs α) (c : Nat) : Prop where
  hn : st.1 = xs.length
  slots : ∀ o, o < d → ∀ n0, st.2 o = some n0 ↔ ∃ j, n0 = j * s ∧ j % d = o ∧ openAt w s xs.length j
  outside : ∀ o, d ≤ o → st.2 o = none
  opn : ∀ o, ob.opn o = (st.2 o).map (fun n0 => xs.drop n0)
  cnt : ∀ j, j < c ↔ j * s + w ≤ xs.length
  closed : ob.closed = (List.range c).map (fun j => (xs.drop (j * s)).take w)

theorem inv_init {α} (w s d : Nat) (hw : 0 < w) :
    RInv (α := α) w s d [] (0, fun _ => none) ⟨fun _ => none, []⟩ 0 := by
  refine ⟨rfl, fun o _ n0 => ?_, fun _ _ => rfl, fun _ => rfl, fun j => ?_, rfl⟩
  · exact ⟨fun h => (Option.some_ne_none n0 h.symm).elim, fun ⟨j, _, _, h, _⟩ => absurd h (Nat.not_lt_zero _)⟩
  · exact ⟨fun h => absurd h (Nat.not_lt_zero _), fun h => absurd (Nat.le_trans (Nat.le_add_left w _) h) (Nat.not_le.mpr hw)⟩

/-- the slot in which the next window opens is free: the window that used it is closed -/
theorem slot_free {α : Type} {w s d : Nat} {xs : List α} {n : Nat} {sl : Slots} {ob : Obs α} {c : Nat}
    (hw : 0 < w) (hdm : w ≤ d * s) (hd0 : 0 < d) (hr : RInv w s d xs (n, sl) ob c) (hm : n % s = 0) : sl ((n / s) % d) = none :=
  Option.eq_none_iff_forall_ne_some.mpr fun n0 hsl => by
    obtain ⟨j, -, hj2, hj3⟩ := (hr.slots _ (Nat.mod_lt _ hd0) n0).mp hsl
    obtain rfl : n = xs.length := hr.hn
    -- a window still open in that slot would receive item `n` as well as the window that starts with it
    cases recv_unique w s d j (xs.length / s) xs.length hdm ⟨Nat.le_of_lt hj3.1, hj3.2⟩ (recv_start hw hm) hj2
    exact Nat.ne_of_lt hj3.1 (div_mul_of_mod_zero _ s hm)

set_option linter.unusedVariables false in
/-- after `openSlot` at item `n` the slots hold the windows that receive item `n` (`hd0` is not used) -/
theorem open_slots {α} (w s d n : Nat) (hs : 0 < s) (hw : 0 < w) (hd0 : 0 < d) (hd : w ≤ d * s)
    (sl : Slots)
    (hsl : ∀ o, o < d → ∀ n0, sl o = some n0 ↔ ∃ j, n0 = j * s ∧ j % d = o ∧ openAt w s n j) :
    ∀ o, o < d → ∀ n0, (openSlot (α := α) s d n sl).1 o = some n0 ↔
      ∃ j, n0 = j * s ∧ j % d = o ∧ recv w s n j := by
  intro o ho n0
  -- a window that does not start at item `n` receives it iff it was open before
  have key : ∀ j, j * s ≠ n → (openAt w s n j ↔ recv w s n j) := fun j h =>
    and_congr_left' ⟨Nat.le_of_lt, fun h' => Nat.lt_of_le_of_ne h' h⟩
  unfold openSlot
  by_cases hm : n % s = 0
  · -- item `n` starts window `n / s`, which is put in slot `(n / s) % d`
    have hj0 : n / s * s = n := div_mul_of_mod_zero n s hm
    rw [if_pos hm]
    by_cases hoo : o = (n / s) % d
    · -- that slot: no other window with this residue receives item `n` (`recv_unique`)
      have hr0 := recv_start hw hm
      subst hoo
      show (if _ = _ then some n else sl _) = some n0 ↔ _
      rw [if_pos rfl]
      constructor
      · intro h
        cases h
        exact ⟨n / s, hj0.symm, rfl, hr0⟩
      · rintro ⟨j, rfl, hjm, hjr⟩
        rw [recv_unique w s d j (n / s) n hd hjr hr0 hjm, hj0]
    · show (if o = _ then some n else sl o) = some n0 ↔ _
      rw [if_neg hoo, hsl o ho n0]
      exact exists_congr fun j => and_congr_right fun _ => and_congr_right fun hjm => key j fun h =>
        hoo (by rw [← hjm, Nat.mul_right_cancel hs (h.trans hj0.symm)])
  · rw [if_neg hm, hsl o ho n0]
    exact exists_congr fun j => and_congr_right fun _ => and_congr_right fun _ => key j fun h =>
      hm (h ▸ Nat.mul_mod_left j s)

theorem obs_openSlot {α} (s d : Nat) (xs : List α) (sl : Slots) (ob : Obs α)
    (hopn : ∀ o, ob.opn o = (sl o).map fun n0 => xs.drop n0) :
    (obsRun ob (openSlot s d xs.length sl).2).closed = ob.closed ∧
    ∀ o, (obsRun ob (openSlot s d xs.length sl).2).opn o =
      ((openSlot (α := α) s d xs.length sl).1 o).map fun n0 => xs.drop n0 := by
  unfold openSlot
  split
  · refine ⟨rfl, fun o => ?_⟩
    show (if o = _ then some [] else ob.opn o) = (if o = _ then some xs.length else sl o).map _
    split
    · rw [Option.map_some, List.drop_length]
    · exact hopn o
  · exact ⟨rfl, hopn⟩

theorem openSlot_outside {α} (s d n : Nat) (hd0 : 0 < d) (sl : Slots) (hout : ∀ o, d ≤ o → sl o = none) :
    ∀ o, d ≤ o → (openSlot (α := α) s d n sl).1 o = none := by
  intro o ho
  unfold openSlot
  split
  · exact (if_neg (Nat.ne_of_gt (Nat.lt_of_lt_of_le (Nat.mod_lt _ hd0) ho))).trans (hout o ho)
  · exact hout o ho

/-- the step of `RInv`: one item through `rollItem`; the count goes up when the item completes window `c` -/
theorem inv_step {α} (w s d : Nat) (hs : 0 < s) (hw : 0 < w) (hd0 : 0 < d) (hd : w ≤ d * s)
    (xs : List α) (st : Nat × Slots) (ob : Obs α) (c : Nat) (x : α)
    (h : RInv w s d xs st ob c) :
    RInv w s d (xs ++ [x]) (rollItem w s d st x).1 (obsRun ob (rollItem w s d st x).2)
      (if c * s + w = xs.length + 1 then c + 1 else c) := by
  obtain ⟨n, sl⟩ := st
  obtain ⟨(rfl : n = xs.length), hsl, hout, hopn, hcnt, hclosed⟩ := h
  -- the ring and the observer after the window of this item has been opened:
  -- the slots hold the windows that receive the item
  have hsl1 := open_slots (α := α) w s d xs.length hs hw hd0 hd sl hsl
  have hout1 := openSlot_outside (α := α) s d xs.length hd0 sl hout
  obtain ⟨hcl1, hopn1⟩ := obs_openSlot s d xs sl ob hopn
  dsimp only [rollItem]
  generalize (openSlot (α := α) s d xs.length sl).1 = sl1 at hsl1 hout1 hopn1
  rw [obsRun_append]
  generalize obsRun ob (openSlot (α := α) s d xs.length sl).2 = ob1 at hcl1 hopn1
  obtain ⟨hcl2, hopn2⟩ := obs_deliver w xs.length x d 0 sl1 ob1
  have hsl2 := deliver_slots w xs.length x d 0 sl1
  have hin : ∀ o, o < d → 0 ≤ o ∧ o < 0 + d := fun o ho => ⟨Nat.zero_le o, (Nat.zero_add d).symm ▸ ho⟩
  have hlen : (xs ++ [x]).length = xs.length + 1 := List.length_append
  refine ⟨hlen.symm, fun o ho n0 => ?_, fun o ho => ?_, fun o => ?_, ?_, ?_⟩
  · show (deliver w xs.length x d 0 sl1).1 o = some n0 ↔ _
    simp only [hsl2, if_pos (hin o ho), kept_eq_some_iff, hsl1 o ho n0, hlen, openAt_succ_iff]
    constructor
    · rintro ⟨⟨j, rfl, hjm, hr⟩, hc⟩
      exact ⟨j, rfl, hjm, hr, hc⟩
    · rintro ⟨j, rfl, hjm, hr, hc⟩
      exact ⟨⟨j, rfl, hjm, hr⟩, hc⟩
  · show (deliver w xs.length x d 0 sl1).1 o = none
    rw [hsl2, if_neg fun h => Nat.not_lt.mpr ho (Nat.zero_add d ▸ h.2)]
    exact hout1 o ho
  · show (obsRun ob1 (deliver w xs.length x d 0 sl1).2).opn o = Option.map _ ((deliver w xs.length x d 0 sl1).1 o)
    rw [hopn2 o, hsl2, hopn1 o]
    by_cases ho : o < d
    · rw [if_pos (hin o ho), if_pos (hin o ho)]
      cases hs1 : sl1 o with
      | none => rfl
      | some m =>
        obtain ⟨j, rfl, -, hr⟩ := (hsl1 o ho m).mp hs1
        show (if _ then _ else _) = Option.map _ (if _ then _ else _)
        split
        · rfl
        · exact congrArg some (List.drop_append_of_le_length hr.1).symm
    · have hno : ¬(0 ≤ o ∧ o < 0 + d) := fun h => ho (Nat.zero_add d ▸ h.2)
      rw [if_neg hno, if_neg hno, hout1 o (Nat.le_of_not_lt ho)]; rfl
  · rw [hlen]; exact cnt_step w s xs.length c hs hcnt
  · -- the completed windows stay as they are; window `c` joins them if this item completes it
    have hold : (List.range c).map (fun j => (xs.drop (j * s)).take w) =
        (List.range c).map (fun j => ((xs ++ [x]).drop (j * s)).take w) :=
      List.map_congr_left fun j hj =>
        (take_drop_stable xs x (j * s) w ((hcnt j).mp (List.mem_range.mp hj))).symm
    -- a slot whose window is completed by this item holds window `c`
    have hcl : ∀ o, o < 0 + d → ∀ n0, sl1 o = some n0 → xs.length - n0 + 1 = w →
        c * s + w = xs.length + 1 ∧ o = c % d := by
      intro o ho n0 h0 hc
      obtain ⟨j, rfl, hjm, hr⟩ := (hsl1 o (Nat.zero_add d ▸ ho) n0).mp h0
      have hj := (recv_closes_iff hr).mp hc
      cases closing_is_c w s xs.length c j hs hcnt hj
      exact ⟨hj, hjm.symm⟩
    rw [hcl2, hcl1, hclosed, hold]
    split
    · next hc =>
      have hrc := recv_of_closes hw hc
      have h1 : sl1 (c % d) = some (c * s) := (hsl1 _ (Nat.mod_lt _ hd0) _).mpr ⟨c, rfl, rfl, hrc⟩
      rw [closings_one w xs.length x d 0 sl1 ob1.opn (c % d) (c * s) (Nat.zero_le _) (hin _ (Nat.mod_lt c hd0)).2 h1
          ((recv_closes_iff hrc).mpr hc) fun o _ ho hne n0 h0 hc => hne (hcl o ho n0 h0 hc).2,
        hopn1, h1, List.range_succ, List.map_append, List.map_singleton, take_drop_last xs x (c * s) w hc hw]
      rfl
    · next hc =>
      rw [closings_none w xs.length x d 0 sl1 ob1.opn fun o _ ho n0 h0 hc' => hc (hcl o ho n0 h0 hc').1,
        List.append_nil]

theorem runObs_inv {α} (w s : Nat) (hs : 0 < s) (hw : 0 < w) :
    ∀ (xs pre : List α) (st : Nat × Slots) (ob : Obs α) (c : Nat),
      RInv w s (density w s) pre st ob c →
      ∃ c', RInv w s (density w s) (pre ++ xs)
        ((rollRingLS w s).runObs (st, ob) xs).1 ((rollRingLS w s).runObs (st, ob) xs).2 c' :=
  fun xs pre st ob c h =>
    runObsRaw_inv (rollRingLS w s).next (fun pre st ob => ∃ c, RInv w s (density w s) pre st ob c)
      (fun pre st ob x ⟨c, h⟩ =>
        ⟨_, inv_step w s _ hs hw (density_pos w s hs hw) (density_mul w s hs) pre st ob c x h⟩)
      xs pre st ob ⟨c, h⟩

end Rx
