import RxModel.Lemmas.Local
import RxModel.Lemmas.PyHandlerLemmas
/-!
# What it means for a generated handler to implement a `LocalOp` at one slot (`SlotStep`, `SlotImpl`), a `LocalOp` without state
(`Emits`, `OutImpl`), or the step of a splitter (`stepOut`)

Neither this file nor Lemmas/PyHandlerLemmas.lean mentions a generated definition: when the generated text changes, the harness
compiles the link modules against it and takes every other module as built.
-/
namespace Rx
open HM

/-- the model's per-index state of an operator as the slot array of its (single) store state -/
def repSt {σ} (enc : σ → Option Val) (st : Nat → Option σ) : Nat → Nat → Slot Val :=
  fun sid i => if sid = 0 then (st i).map enc else none

theorem repSt_apply {σ} (enc : σ → Option Val) (st : Nat → Option σ) (i : Nat) : repSt enc st 0 i = (st i).map enc := if_pos rfl

theorem repSt_upd {σ} (enc : σ → Option Val) (st : Nat → Option σ) (i : Nat) (v : Option σ) :
    repSt enc (upd st i v) = updSlot (repSt enc st) 0 i (v.map enc) := by
  funext sid j
  by_cases h1 : sid = 0 <;> by_cases h2 : j = i <;> simp [repSt, updSlot, upd, h1, h2]

/-- `updSlot_eq_self` on a `repSt`: writing back what slot `i` holds -/
theorem repSt_same {σ} (enc : σ → Option Val) (st : Nat → Option σ) (i : Nat) (v : Option σ) (h : st i = v) :
    updSlot (repSt enc st) 0 i (v.map enc) = repSt enc st :=
  updSlot_eq_self (by rw [repSt_apply, h])

/-! ## a handler implements a `LocalOp` at one slot

`idxStep L` keeps the state of key `k` at index `k.idx`; a store-based handler keeps `enc` of it in slot `k.idx` of its state 0. -/

/-- run on any store whose slot `i` of state 0 holds `a`, `m` leaves `b` there, touches no other slot and emits `out` -/
def SlotStep (m : HM Val Unit) (i : Nat) (a b : Slot Val) (out : List (Ev Val)) : Prop :=
  ∀ f : Nat → Nat → Slot Val,
    runS m { stores := updSlot f 0 i a, out := [] } = (.ok (), { stores := updSlot f 0 i b, out := out })

theorem SlotStep.rep {σ} {enc : σ → Option Val} {m : HM Val Unit} {i : Nat} {st st' : Nat → Option σ} {x y : Option σ}
    {out : List (Ev Val)} (hx : st i = x) (hy : upd st i y = st') (h : SlotStep m i (x.map enc) (y.map enc) out) :
    runH m (repSt enc st) = (.ok (), repSt enc st', out) := by
  rw [← updSlot_eq_self (show repSt enc st 0 i = x.map enc by rw [repSt_apply, hx]), runH_eq, h, ← repSt_upd, hy]

theorem SlotStep.create (k : Key) (d : Option Val) (a : Slot Val) :
    SlotStep (do addKey 0 k d; emit (.create k)) k.idx a (some d) [.create k] := fun f => by
  simp only [run_simps]

theorem SlotStep.create_set (k : Key) (v : Val) (a : Slot Val) :
    SlotStep (do addKey 0 k none; setState 0 k v; emit (.create k)) k.idx a (some (some v)) [.create k] := fun f => by
  simp only [run_simps]

theorem SlotStep.done_del (k : Key) (a : Slot Val) :
    SlotStep (do emit (.done k); delKey 0 k) k.idx a none [.done k] := fun f => by
  simp only [run_simps]

theorem SlotStep.del_done (k : Key) (a : Slot Val) :
    SlotStep (do delKey 0 k; emit (.done k)) k.idx a none [.done k] := fun f => by
  simp only [run_simps]

theorem SlotStep.emit (e : Ev Val) (i : Nat) (a : Slot Val) : SlotStep (emit e) i a a [e] := fun _ => rfl

/-- what every store-based handler `h` of an operator `L` does -/
structure SlotImpl (L : LocalOp Val Val) (enc : L.σ → Option Val) (h : Ev Val → HM Val Unit) : Prop where
  create : ∀ k a, SlotStep (h (.create k)) k.idx a (some (enc L.init)) [.create k]
  next : ∀ k v a, SlotStep (h (.next k v)) k.idx (some (enc a)) (some (enc (L.next a v).1)) ((L.next a v).2.map (liftOut k))
  done : ∀ k a, SlotStep (h (.done k)) k.idx (some (enc a)) none ((L.fin a).map (liftOut k) ++ [.done k])
  fatal : ∀ e, h (.fatal e) = emit (.fatal e)

/-- such a handler is `idxStep L` on the stores that represent the model's states: on every item of a live key, and on the events
the code treats as the model does — a completion for a slot that is not live (`hdone`: the model ignores it, the handler may
delete the slot once more) and an `OnErrorMux` (`herr`) are the caller's to show, or to rule out -/
theorem SlotImpl.link {L : LocalOp Val Val} {enc : L.σ → Option Val} {h : Ev Val → HM Val Unit} (I : SlotImpl L enc h)
    (st : Nat → Option L.σ) (ev : Ev Val)
    (hlive : ∀ k v, ev = .next k v → st k.idx ≠ none)
    (hdone : ∀ k, ev = .done k → st k.idx = none → SlotStep (h (.done k)) k.idx none none [.done k])
    (herr : ∀ k e, ev = .err k e →
      match st k.idx with
      | some a => SlotStep (h (.err k e)) k.idx (some (enc a)) (some (enc (L.onErr a e).1)) ((L.onErr a e).2.map (liftOut k))
      | none => SlotStep (h (.err k e)) k.idx none none [.err k e]) :
    runH (h ev) (repSt enc st) = (.ok (), repSt enc (idxStep L st ev).1, (idxStep L st ev).2) := by
  cases ev with
  | create k => exact (I.create k _).rep rfl rfl
  | next k v =>
    cases ha : st k.idx with
    | none => exact absurd ha (hlive k v rfl)
    | some a => simp only [idxStep, ha]; exact (I.next k v a).rep ha rfl
  | done k =>
    cases ha : st k.idx with
    | none => simp only [idxStep, ha]; exact (hdone k rfl ha).rep ha (upd_eq_self ha)
    | some a => simp only [idxStep, ha]; exact (I.done k a).rep ha rfl
  | err k e =>
    have he := herr k e rfl
    cases ha : st k.idx with
    | none => rw [ha] at he; simp only [idxStep, ha]; exact he.rep ha (upd_eq_self ha)
    | some a => rw [ha] at he; simp only [idxStep, ha]; exact he.rep ha rfl
  | fatal e => rw [I.fatal]; rfl

def Emits (m : HM Val Unit) (out : List (Ev Val)) : Prop :=
  ∀ stores : Nat → Nat → Slot Val, runS m { stores := stores, out := [] } = (.ok (), { stores := stores, out := out })

theorem Emits.emit (e : Ev Val) : Emits (emit e) [e] := fun _ => rfl

/-- what the handler `h` of an operator `L` without state does; on the items outside `D` the code is outside the model -/
structure OutImpl (L : LocalOp Val Val) (D : Val → Prop) (h : Ev Val → HM Val Unit) : Prop where
  next : ∀ k v a, D v → Emits (h (.next k v)) ((L.next a v).2.map (liftOut k))
  fin : ∀ a, L.fin a = []
  create : ∀ k, h (.create k) = emit (.create k)
  done : ∀ k, h (.done k) = emit (.done k)
  fatal : ∀ e, h (.fatal e) = emit (.fatal e)

/-- such a handler emits what `idxStep L` emits, whatever the store; `herr` as in `SlotImpl.link` -/
theorem OutImpl.link {L : LocalOp Val Val} {D : Val → Prop} {h : Ev Val → HM Val Unit} (I : OutImpl L D h)
    (st : Nat → Option L.σ) (stores : Nat → Nat → Slot Val) (ev : Ev Val)
    (hlive : ∀ k v, ev = .next k v → st k.idx ≠ none) (hD : ∀ k v, ev = .next k v → D v)
    (herr : ∀ k e, ev = .err k e → Emits (h (.err k e)) (idxStep L st (.err k e)).2) :
    runH (h ev) stores = (.ok (), stores, (idxStep L st ev).2) := by
  cases ev with
  | create k => rw [I.create]; rfl
  | next k v =>
    cases ha : st k.idx with
    | none => exact absurd ha (hlive k v rfl)
    | some a => simp only [runH_eq, I.next k v a (hD k v rfl) stores, idxStep, ha]
  | done k => rw [I.done]; simp only [idxStep]; split <;> simp only [I.fin, List.map_nil, List.nil_append] <;> rfl
  | err k e => simp only [runH_eq, herr k e rfl stores]
  | fatal e => rw [I.fatal]; rfl

/-! ## a handler implements a splitter

A splitter's step returns a new state, the inner events and the events sent around the inner pipeline.  `stepOut emb r` is what a
handler that performs the step `r` leaves behind: the state `emb` holds, with the events appended to the two output channels.
The conditionals of the model's step are pushed outwards (`stepOut_ite`), so that both sides of a link theorem end up as the same
tree of the same conditions. -/

attribute [run_simps] OEv.toEv

def stepOut {S : Type} (emb : S → HSt Val) (r : S × List (Ev Val) × List OEv) : Except Err Unit × HSt Val :=
  (.ok (), { emb r.1 with out := (emb r.1).out ++ r.2.1, outer := (emb r.1).outer ++ r.2.2.map OEv.toEv })

@[run_simps] theorem stepOut_ite {S : Type} (emb : S → HSt Val) (c : Prop) [Decidable c] (a b : S × List (Ev Val) × List OEv) :
    stepOut emb (if c then a else b) = if c then stepOut emb a else stepOut emb b := apply_ite _ _ _ _

@[run_simps] theorem stepOut_mk {S : Type} (emb : S → HSt Val) (s : S) (i : List (Ev Val)) (o : List OEv) :
    stepOut emb (s, i, o) = (.ok (), { emb s with out := (emb s).out ++ i, outer := (emb s).outer ++ o.map OEv.toEv }) := rfl

theorem runH2_of_stepOut {S : Type} {m : HM Val Unit} {rep : S → Nat → Nat → Slot Val} {st : S} {r : S × List (Ev Val) × List OEv}
    (h : runS m { stores := rep st, out := [] } = stepOut (fun s => { stores := rep s, out := [] }) r) :
    runH2 m (rep st) = (.ok (), rep r.1, r.2.1, r.2.2.map OEv.toEv) := by
  rw [runH2_eq, h]
  rfl

theorem runHM_of_stepOut {S : Type} {m : HM Val Unit} {rep : S → Nat → Nat → Option (List (Val × Nat))} {next : S → Nat} {st : S}
    {r : S × List (Ev Val) × List OEv}
    (h : runS m { stores := fun _ _ => none, out := [], maps := rep st, nextIndex := next st }
      = stepOut (fun s => { stores := fun _ _ => none, out := [], maps := rep s, nextIndex := next s }) r) :
    runHM m (rep st) (next st) = (.ok (), rep r.1, next r.1, r.2.1, r.2.2.map OEv.toEv) := by
  show ((runS m _).1, (runS m _).2.maps, (runS m _).2.nextIndex, (runS m _).2.out, (runS m _).2.outer) = _
  rw [h]
  rfl

end Rx
