import RxModel.Csv
import RxModel.Lemmas.Framing
/-!
# The row parser of RxModel/Csv.lean: escaped text, `merge_escape_parts`, `str.replace`

`csv.load` splits a line at every separator and then re-joins the pieces that belong to one quoted
string field (`mergeParts`; the separator is one character here).  The dumped text of a string is
*escaped*: built from plain characters, doubled escape characters and escaped quotes (`EscS`).
Escaped text never ends with an unescaped quote (an odd number of escape characters precedes every
quote), and it ends with an even number of escape characters — so the closing quote of the field is
the first piece end that `closingQuote` accepts (`mergeParts_quoted`, `merge_all`).

The last section is about `pyReplace`, Python's `str.replace`: with a pattern of one or two
characters it is `replace1` / `replace2`, the form the escaping lemmas of Props/C18.lean are stated in.
-/
namespace Rx

inductive EscS (esc : Char) : Str → Prop
  | nil : EscS esc []
  | plain (e : Str) (x : Char) : EscS esc e → x ≠ esc → x ≠ '"' → EscS esc (e ++ [x])
  | dbl (e : Str) : EscS esc e → EscS esc (e ++ [esc, esc])
  | quo (e : Str) : EscS esc e → EscS esc (e ++ [esc, '"'])

/-- what `escapeStr` writes for the character `x` -/
def escTok (esc : Char) (x : Char) : Str := if x = esc then [esc, esc] else if x = '"' then [esc, '"'] else [x]

theorem escapeStr_eq_flatMap (esc : Char) (hq : esc ≠ '"') (s : Str) : escapeStr esc s = s.flatMap (escTok esc) := by
  -- the second `replace` goes over what the first wrote for each character
  rw [escapeStr, replace1, replace1, List.flatMap_assoc]
  refine congrArg (List.flatMap · s) (funext fun x => ?_)
  rw [escTok]
  by_cases h1 : x = esc
  · rw [if_pos h1, if_pos h1]
    simp [hq]
  · rw [if_neg h1, if_neg h1]
    by_cases h2 : x = '"' <;> simp [h2]

theorem escS_append_flatMap (esc : Char) (s : Str) {e : Str} (h : EscS esc e) : EscS esc (e ++ s.flatMap (escTok esc)) := by
  induction s generalizing e with
  | nil => rwa [List.flatMap_nil, List.append_nil]
  | cons x s ih =>
    rw [List.flatMap_cons, ← List.append_assoc]
    refine ih ?_
    rw [escTok]
    by_cases h1 : x = esc
    · rw [if_pos h1]; exact .dbl e h
    · by_cases h2 : x = '"'
      · rw [if_neg h1, if_pos h2]; exact .quo e h
      · rw [if_neg h1, if_neg h2]; exact .plain e x h h1 h2

theorem escS_escapeStr (esc : Char) (hq : esc ≠ '"') (s : Str) : EscS esc (escapeStr esc s) := by
  rw [escapeStr_eq_flatMap esc hq]
  exact escS_append_flatMap esc s .nil

/-- the number of escape characters at the end of `t` -/
def trailEsc (esc : Char) (t : Str) : Nat := (t.reverse.takeWhile (· == esc)).length

theorem trailEsc_snoc_ne (esc x : Char) (t : Str) (h : x ≠ esc) : trailEsc esc (t ++ [x]) = 0 := by
  simp [trailEsc, h]

theorem trailEsc_snoc_esc (esc : Char) (t : Str) : trailEsc esc (t ++ [esc]) = trailEsc esc t + 1 := by
  simp [trailEsc]

theorem escS_trailEsc_even (esc : Char) (hq : esc ≠ '"') {e : Str} (h : EscS esc e) : trailEsc esc e % 2 = 0 := by
  induction h with
  | nil => rfl
  | plain e x _ h1 _ _ => rw [trailEsc_snoc_ne esc x e h1]
  | dbl e _ ih => rw [List.append_cons, trailEsc_snoc_esc, trailEsc_snoc_esc, Nat.add_assoc, Nat.add_mod_right, ih]
  | quo e _ _ => rw [List.append_cons, trailEsc_snoc_ne esc '"' _ (Ne.symm hq)]

theorem escS_quote_odd (esc : Char) (hq : esc ≠ '"') {e' : Str} (h : EscS esc (e' ++ ['"'])) :
    trailEsc esc e' % 2 = 1 := by
  generalize he : e' ++ ['"'] = e at h
  cases h with
  | nil => simp at he
  | plain e0 x _ _ h2 => exact absurd (List.append_singleton_inj.mp he).2.symm h2
  | dbl e0 _ =>
    rw [List.append_cons e0] at he
    exact absurd (List.append_singleton_inj.mp he).2.symm hq
  | quo e0 h0 =>
    rw [List.append_cons e0] at he
    rw [(List.append_singleton_inj.mp he).1, trailEsc_snoc_esc, Nat.add_mod, escS_trailEsc_even esc hq h0]

theorem closingQuote_snoc (esc : Char) (t : Str) : closingQuote esc (t ++ ['"']) = (trailEsc esc t % 2 == 0) := by
  unfold closingQuote trailEsc
  rw [List.reverse_append]
  rfl

theorem closingQuote_not_quote (esc : Char) (t : Str) (h : t.getLast? ≠ some '"') : closingQuote esc t = false := by
  unfold closingQuote
  rw [List.getLast?_eq_head?_reverse] at h
  split
  · next r heq => rw [heq] at h; exact absurd rfl h
  · rfl

theorem takeWhile_concat_stop {α} (p : α → Bool) (a : List α) {y : α} (hy : p y = false) :
    (a ++ [y]).takeWhile p = a.takeWhile p := by
  induction a with
  | nil => exact List.takeWhile_cons_of_neg (by simp [hy])
  | cons x a ih => rw [List.cons_append, List.takeWhile_cons, List.takeWhile_cons, ih]

theorem closingQuote_false_ne {esc : Char} {t : Str} (hc : closingQuote esc t = false) : t ≠ ['"'] := by
  rintro rfl
  cases hc

theorem closingQuote_cons_quote (esc : Char) (hq : esc ≠ '"') (t : Str) (ht : t ≠ []) :
    closingQuote esc ('"' :: t) = closingQuote esc t := by
  obtain ⟨t', x, rfl⟩ := (List.eq_nil_or_concat t).resolve_left ht
  rw [List.concat_eq_append, ← List.cons_append]
  by_cases hx : x = '"'
  · -- counted from the back, the run of escape characters ends at the opening quote at the latest
    rw [hx, closingQuote_snoc, closingQuote_snoc, trailEsc, trailEsc, List.reverse_cons,
      takeWhile_concat_stop (· == esc) _ (beq_false_of_ne (Ne.symm hq))]
  · rw [closingQuote_not_quote, closingQuote_not_quote] <;> rw [List.getLast?_concat] <;>
      exact fun h => hx (Option.some.inj h)

theorem escS_not_closing (esc : Char) (hq : esc ≠ '"') {e : Str} (h : EscS esc e) : closingQuote esc e = false := by
  rcases List.eq_nil_or_concat e with rfl | ⟨e', x, rfl⟩
  · rfl
  · rw [List.concat_eq_append] at h ⊢
    by_cases hx : x = '"'
    · subst hx
      rw [closingQuote_snoc, escS_quote_odd esc hq h]
      rfl
    · exact closingQuote_not_quote esc _ fun h => hx (Option.some.inj (List.getLast?_concat.symm.trans h))

theorem closingQuote_last (esc : Char) (hq : esc ≠ '"') {bl : Str} (hbl : EscS esc bl) :
    closingQuote esc (bl ++ ['"']) = true := by
  rw [closingQuote_snoc, escS_trailEsc_even esc hq hbl]
  rfl

theorem joinWith_eq_intercalate (sep : Str) (l : List Str) : joinWith sep l = sep.intercalate l := by
  induction l with
  | nil => rfl
  | cons a l ih =>
    cases l with
    | nil => exact List.intercalate_singleton.symm
    | cons b l => rw [joinWith, ih, List.intercalate_cons_cons, List.append_assoc]

theorem join_split (c : Char) (t : Str) : joinWith [c] (splitC c t) = t := by
  rw [joinWith_eq_intercalate, splitC_eq_splitOn, List.intercalate_splitOn]

theorem escS_split (esc c : Char) (hce : c ≠ esc) (hcq : c ≠ '"') {e : Str} (h : EscS esc e) :
    ∀ p ∈ splitC c e, EscS esc p := by
  -- a token without the separator goes onto the last piece, which stays escaped text
  have key : ∀ (e u : Str), c ∉ u → (∀ p ∈ splitC c e, EscS esc p) →
      (EscS esc (lastP (splitC c e)) → EscS esc (lastP (splitC c e) ++ u)) →
      ∀ p ∈ splitC c (e ++ u), EscS esc p := by
    intro e u hu ih hlast
    rw [splitC_append_nosep c e u hu]
    exact List.forall_mem_append.mpr ⟨fun p hp => ih p (List.dropLast_subset _ hp),
      List.forall_mem_singleton.mpr (hlast (ih _ (lastP_mem _ (splitC_ne_nil c e))))⟩
  induction h with
  | nil => exact List.forall_mem_singleton.mpr .nil
  | plain e x _ h1 h2 ih =>
    by_cases hx : x = c
    · rw [hx, splitC_append_cons_self c e []]
      exact List.forall_mem_append.mpr ⟨ih, List.forall_mem_singleton.mpr .nil⟩
    · exact key e [x] (by simpa using Ne.symm hx) ih fun hl => .plain _ x hl h1 h2
  | dbl e _ ih => exact key e [esc, esc] (by simpa using hce) ih fun hl => .dbl _ hl
  | quo e _ ih => exact key e [esc, '"'] (by simpa using ⟨hce, hcq⟩) ih fun hl => .quo _ hl

theorem split_join_flat (c : Char) (toks : List Str) (hne : toks ≠ []) :
    splitC c (joinWith [c] toks) = toks.flatMap (splitC c) := by
  induction toks with
  | nil => exact absurd rfl hne
  | cons a r ih =>
    cases r with
    | nil => exact (List.append_nil _).symm
    | cons b r =>
      rw [joinWith, List.append_assoc, List.singleton_append, splitC_append_cons_self, ih (List.cons_ne_nil b r)]
      rfl

/-! ### merge_escape_parts, one piece at a time (each by unfolding the `if` chain) -/
section
variable (sep : Str) (esc : Char) {t : Str} {ts : List Str}

theorem mergeParts_plain (hh : t.head? ≠ some '"') :
    mergeParts sep esc none (t :: ts) = t :: mergeParts sep esc none ts :=
  (if_neg fun (h : t = ['"']) => hh (h ▸ rfl)).trans <| (if_neg fun h => hh h.1).trans <|
    (if_neg fun h => h.2 rfl).trans <| if_neg fun h => hh h.1

theorem mergeParts_whole (hh : t.head? = some '"') (hne : t ≠ ['"']) (hc : closingQuote esc t = true) :
    mergeParts sep esc none (t :: ts) = t :: mergeParts sep esc none ts :=
  (if_neg hne).trans (if_pos ⟨hh, hc, rfl⟩)

theorem mergeParts_open (hh : t.head? = some '"') (hc : t = ['"'] ∨ closingQuote esc t = false) :
    mergeParts sep esc none (t :: ts) = mergeParts sep esc (some [t]) ts := by
  rcases hc with rfl | hc
  · rfl
  · exact (if_neg (closingQuote_false_ne hc)).trans <| (if_neg fun h => Bool.false_ne_true (hc ▸ h.2.1)).trans <|
      (if_neg fun h => h.2 rfl).trans (if_pos ⟨hh, rfl⟩)

theorem mergeParts_mid (a : List Str) (hc : closingQuote esc t = false) :
    mergeParts sep esc (some a) (t :: ts) = mergeParts sep esc (some (a ++ [t])) ts :=
  (if_neg (closingQuote_false_ne hc)).trans <| (if_neg fun h => nomatch h.2.2).trans <|
    (if_neg fun h => Bool.false_ne_true (hc ▸ h.1)).trans <| if_neg fun h => nomatch h.2

theorem mergeParts_close (a : List Str) (hc : closingQuote esc t = true) :
    mergeParts sep esc (some a) (t :: ts) = joinWith sep (a ++ [t]) :: mergeParts sep esc none ts := by
  by_cases hne : t = ['"']
  · subst hne; rfl
  · exact (if_neg hne).trans <| (if_neg fun h => nomatch h.2.2).trans (if_pos ⟨hc, nofun⟩)
end

theorem mergeParts_run (sep : Str) (esc : Char) (mids a : List Str) (last : Str) (rest : List Str)
    (hm : ∀ m ∈ mids, closingQuote esc m = false) (hl : closingQuote esc last = true) :
    mergeParts sep esc (some a) (mids ++ last :: rest) =
      joinWith sep (a ++ mids ++ [last]) :: mergeParts sep esc none rest := by
  induction mids generalizing a with
  | nil => rw [List.nil_append, mergeParts_close sep esc a hl, List.append_nil]
  | cons m mids ih =>
    rw [List.cons_append, mergeParts_mid sep esc a (hm m List.mem_cons_self),
      ih (a ++ [m]) fun x hx => hm x (List.mem_cons_of_mem m hx), List.append_assoc a [m], List.singleton_append]

/-- **a quoted string field is re-joined**: whatever separators its text contains, the pieces of
`"…"` are merged back into the one field, and nothing after it is touched -/
theorem mergeParts_quoted (c esc : Char) (hce : c ≠ esc) (hcq : c ≠ '"') (hq : esc ≠ '"') (e : Str) (he : EscS esc e)
    (rest : List Str) :
    mergeParts [c] esc none (splitC c ('"' :: e ++ ['"']) ++ rest) =
      ('"' :: e ++ ['"']) :: mergeParts [c] esc none rest := by
  have hjs := join_split c ('"' :: e ++ ['"'])
  have hall := escS_split esc c hce hcq he
  have hbl : EscS esc (lastP (splitC c e)) := hall _ (lastP_mem _ (splitC_ne_nil c e))
  have hD : ∀ m ∈ (splitC c e).dropLast, EscS esc m := fun m hm => hall m (List.dropLast_subset _ hm)
  -- the pieces of the field are those of `e`, the first with the opening quote in front, the last
  -- with the closing quote behind
  rw [List.cons_append, splitC_cons_ne c '"' _ (Ne.symm hcq),
    splitC_append_nosep c e ['"'] (by simp; exact hcq)] at hjs ⊢
  generalize (splitC c e).dropLast = D at hD hjs ⊢
  generalize lastP (splitC c e) = bl at hbl hjs ⊢
  cases D with
  | nil =>
    rw [← hjs]
    exact mergeParts_whole [c] esc rfl (by simp)
      ((closingQuote_cons_quote esc hq _ (by simp)).trans (closingQuote_last esc hq hbl))
  | cons b0 D' =>
    rw [← hjs]
    simp only [List.cons_append, List.headD_cons, List.tail_cons, List.append_assoc, List.nil_append]
    rw [mergeParts_open [c] esc rfl, mergeParts_run [c] esc D' ['"' :: b0] (bl ++ ['"']) rest
        (fun m hm => escS_not_closing esc hq (hD m (by simp [hm]))) (closingQuote_last esc hq hbl)]
    · rfl
    · by_cases hb : b0 = []
      · exact .inl (by rw [hb])
      · exact .inr ((closingQuote_cons_quote esc hq b0 hb).trans (escS_not_closing esc hq (hD b0 (by simp))))

/-- what `dump` writes for one field: a plain token or a quoted escaped string -/
def TokOK (c esc : Char) (t : Str) : Prop :=
  (c ∉ t ∧ t.head? ≠ some '"') ∨ (∃ e, EscS esc e ∧ t = '"' :: e ++ ['"'])

/-- **merge_escape_parts inverts the split** of a dumped row, whatever the string fields contain -/
theorem merge_all (c esc : Char) (hce : c ≠ esc) (hcq : c ≠ '"') (hq : esc ≠ '"') : ∀ (toks : List Str),
    (∀ t ∈ toks, TokOK c esc t) → mergeParts [c] esc none (toks.flatMap (splitC c)) = toks := by
  intro toks h
  induction toks with
  | nil => rfl
  | cons t toks ih =>
    have ih := ih fun x hx => h x (List.mem_cons_of_mem t hx)
    rw [List.flatMap_cons]
    rcases h t List.mem_cons_self with ⟨h1, h2⟩ | ⟨e, he, rfl⟩
    · rw [splitC_nosep c t h1, List.singleton_append, mergeParts_plain [c] esc h2, ih]
    · rw [mergeParts_quoted c esc hce hcq hq e he, ih]

/-! ### Python's `str.replace` (`pyReplace`), left to right, with a pattern of one or two characters -/

theorem startsWith_nil (s : Str) : startsWith [] s = true := by
  simp only [startsWith, List.length_nil, List.take_zero, BEq.rfl]

theorem startsWith_cons_nil (a : Char) (p : Str) : startsWith (a :: p) [] = false := by
  simp only [startsWith, List.length_cons, List.take_nil, List.nil_beq_eq, List.isEmpty_cons]

theorem startsWith_cons_cons (a c : Char) (p s : Str) :
    startsWith (a :: p) (c :: s) = (c == a && startsWith p s) := by
  simp only [startsWith, List.length_cons, List.take_succ_cons, List.cons_beq_cons]

theorem pyReplaceAux_one (a : Char) (new : Str) (fuel : Nat) (s : Str) (h : s.length < fuel) :
    pyReplaceAux [a] new fuel s = replace1 a new s := by
  induction s generalizing fuel with
  | nil => cases fuel <;> rfl
  | cons c s ih =>
    cases fuel with
    | zero => exact absurd h (Nat.not_lt_zero _)
    | succ f =>
      rw [pyReplaceAux, startsWith_cons_cons, startsWith_nil, Bool.and_true, List.length_singleton,
        List.drop_succ_cons, List.drop_zero, ih f (Nat.lt_of_succ_lt_succ h)]
      simp only [replace1, List.flatMap_cons]
      by_cases hc : c = a
      · rw [if_pos (beq_iff_eq.mpr hc), if_pos hc]
      · rw [if_neg (mt beq_iff_eq.mp hc), if_neg hc]; rfl

theorem pyReplace_one (a : Char) (new s : Str) : pyReplace [a] new s = replace1 a new s := by
  rw [pyReplace, if_neg (List.cons_ne_nil _ _), pyReplaceAux_one a new _ s (Nat.lt_succ_self _)]

theorem pyReplaceAux_two (a b : Char) (new : Str) (fuel : Nat) (s : Str) (hf : s.length < fuel) :
    pyReplaceAux [a, b] new fuel s = replace2 a b new s := by
  induction fuel generalizing s with
  | zero => exact absurd hf (Nat.not_lt_zero _)
  | succ f ih =>
    obtain _ | ⟨c, _ | ⟨d, r⟩⟩ := s
    · rfl
    · rw [pyReplaceAux, startsWith_cons_cons, startsWith_cons_nil, Bool.and_false, if_neg Bool.false_ne_true, replace2]
      cases f <;> rfl
    · have hf' : (d :: r).length < f := Nat.lt_of_succ_lt_succ hf
      rw [pyReplaceAux, startsWith_cons_cons, startsWith_cons_cons, startsWith_nil, Bool.and_true, replace2]
      by_cases h : c = a ∧ d = b
      · rw [if_pos (by rw [Bool.and_eq_true, beq_iff_eq, beq_iff_eq]; exact h), if_pos h]
        show new ++ pyReplaceAux [a, b] new f r = _
        rw [ih r (Nat.lt_of_succ_lt hf')]
      · rw [if_neg (by rw [Bool.and_eq_true, beq_iff_eq, beq_iff_eq]; exact h), if_neg h, ih (d :: r) hf']

theorem pyReplace_two (a b : Char) (new s : Str) : pyReplace [a, b] new s = replace2 a b new s := by
  rw [pyReplace, if_neg (List.cons_ne_nil _ _), pyReplaceAux_two a b new _ s (Nat.lt_succ_self _)]

end Rx
