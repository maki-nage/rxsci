import RxModel.Lemmas.Obs
import RxModel.Lemmas.Local
/-!
# The tumbling `roll` (window = stride): `_roll_count`, a counter and no ring

Its windows are the consecutive chunks of `w` items (`tumbling_windows`), read off the invariant
`TumInv` through `LSplit.windows_inv`.
-/
namespace Rx

/-- `_roll_count.on_next`, the `next` of `rollCountLS w`, as a function of its own: the step of the
invariant (`TumInv.step`) is stated and rewritten with it, the structure staying folded -/
def rcNext {α} (w : Nat) (c : Nat) (x : α) : Nat × List (Cmd α) :=
  let pre := if c = 0 then [Cmd.opn 0] else []
  if c + 1 = w then (0, pre ++ [.itm 0 x, .cls 0]) else (c + 1, pre ++ [.itm 0 x])

theorem rcNext_eq {α} (w : Nat) : (rollCountLS (α := α) w).next = rcNext w := rfl

/-- invariant of `_roll_count` after the items `pre`, with the quotient `q` and the remainder `c` (the
counter) of `|pre|` by `w` kept explicit: `q` chunks are completed, the open window holds the rest -/
def TumInv {α} (w : Nat) (pre : List α) (c : Nat) (ob : Obs α) : Prop :=
  ∃ q, pre.length = q * w + c ∧ c < w ∧ ob.closed = (List.range q).map (window w w pre) ∧
    ob.opn 0 = if c = 0 then none else some (pre.drop (q * w))

theorem TumInv.step {α} (w : Nat) (pre : List α) (c : Nat) (ob : Obs α) (x : α) (h : TumInv w pre c ob) :
    TumInv w (pre ++ [x]) (rcNext w c x).1 (obsRun ob (rcNext w c x).2) := by
  obtain ⟨q, hlen, hc, hcl, hop⟩ := h
  have hlen' : (pre ++ [x]).length = q * w + c + 1 := by rw [List.length_append, hlen]; rfl
  have hq : q * w ≤ pre.length := hlen ▸ Nat.le_add_right _ c
  -- the `q` chunks are complete and stay as they are
  have hst : (List.range q).map (window w w (pre ++ [x])) = (List.range q).map (window w w pre) :=
    List.map_congr_left fun j hj =>
      take_drop_stable pre x (j * w) w (Nat.le_trans (succ_mul_le_of_lt j q w (List.mem_range.mp hj)) hq)
  have hdrop : (pre ++ [x]).drop (q * w) = pre.drop (q * w) ++ [x] := List.drop_append_of_le_length hq
  -- once the window is open (it is opened now if `c = 0`) it holds the items from `q * w` on
  obtain ⟨ob1, hob1, hopn1, hcl1⟩ : ∃ ob1, obsRun ob (if c = 0 then [Cmd.opn 0] else []) = ob1 ∧
      ob1.opn 0 = some (pre.drop (q * w)) ∧ ob1.closed = ob.closed := by
    by_cases h0 : c = 0
    · rw [if_pos h0]
      exact ⟨_, rfl, congrArg some (List.drop_eq_nil_of_le (Nat.le_of_eq (hlen.trans (congrArg _ h0)))).symm, rfl⟩
    · rw [if_neg h0]
      exact ⟨_, rfl, hop.trans (if_neg h0), rfl⟩
  by_cases hfull : c + 1 = w
  · rw [show rcNext w c x = (0, (if c = 0 then [Cmd.opn 0] else []) ++ [.itm 0 x, .cls 0]) from if_pos hfull,
      obsRun_append, hob1]
    refine ⟨q + 1, by rw [hlen', Nat.succ_mul, ← hfull]; rfl, Nat.zero_lt_of_lt hc, ?_, rfl⟩
    show ob1.closed ++ [((ob1.opn 0).map (· ++ [x])).getD []] = _
    rw [List.range_succ, List.map_append, hst, ← hcl, hcl1, hopn1, List.map_singleton, window,
      take_drop_last pre x (q * w) w (by rw [hlen, ← hfull]; rfl) (Nat.zero_lt_of_lt hc)]
    rfl
  · rw [show rcNext w c x = (c + 1, (if c = 0 then [Cmd.opn 0] else []) ++ [.itm 0 x]) from if_neg hfull,
      obsRun_append, hob1]
    refine ⟨q, hlen', Nat.lt_of_le_of_ne hc hfull, ?_, ?_⟩
    · rw [hst, ← hcl, ← hcl1]; rfl
    · show (ob1.opn 0).map (· ++ [x]) = _
      rw [hopn1, if_neg (Nat.succ_ne_zero c), hdrop]; rfl

theorem tumbling_windows {α} (w : Nat) (hw : 0 < w) (xs : List α) :
    (rollCountLS w).windows xs =
      ((List.range (xs.length / w)).map (window w w xs),
       if xs.length % w = 0 then [] else [xs.drop (xs.length / w * w)]) := by
  obtain ⟨(c : Nat), ob, ⟨q, hlen, hc, hcl, hop⟩, hwin⟩ := (rollCountLS w).windows_inv (TumInv w)
    ⟨0, (Nat.zero_mul w).symm ▸ rfl, hw, rfl, rfl⟩ (TumInv.step w) xs
  obtain ⟨hq, hr⟩ := (Nat.div_mod_unique (a := xs.length) (d := q) hw).mpr
    ⟨by rw [hlen, Nat.mul_comm, Nat.add_comm], hc⟩
  rw [hwin, hq, hr, hcl]
  refine Prod.ext rfl ?_
  show (obsRun ⟨ob.opn, []⟩ (if c > 0 then [Cmd.cls 0] else [])).closed = _
  split
  · next h => rw [if_neg (Nat.ne_of_gt h)]; show [] ++ [(ob.opn 0).getD []] = _; rw [hop, if_neg (Nat.ne_of_gt h)]; rfl
  · next h => rw [if_pos (Nat.eq_zero_of_not_pos h)]; rfl

end Rx
