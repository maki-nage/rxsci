import RxModel.PyCodec
import RxModel.Lemmas.RunM
/-!
# The primitives of `CM` (closures over a streaming codec object, RxModel/PyCodec.lean) run from the closure's state
(as Lemmas/RunM.lean describes).
-/
namespace Rx

@[run_simps] theorem CM.run_eq {σ} (m : CM σ Unit) (s : CSt σ) : CM.run m s = runM m s := rfl
@[run_simps] theorem CM.runM_call {σ} (f : σ → Bytes → Except String (σ × Bytes)) (i : Bytes) (s : CSt σ) :
    runM (CM.call f i) s = match f s.obj i with
      | .ok (o, d) => (.ok d, { s with obj := o })
      | .error e => (.error e, s) := by
  simp only [CM.call, run_simps]
  rcases f s.obj i with _ | ⟨_, _⟩ <;> rfl
@[run_simps] theorem CM.runM_call0 {σ} (f : σ → Except String Bytes) (s : CSt σ) :
    runM (CM.call0 f) s = match f s.obj with
      | .ok d => (.ok d, s)
      | .error e => (.error e, s) := by
  simp only [CM.call0, run_simps]
  cases f s.obj <;> rfl
@[run_simps] theorem CM.runM_attr {σ} (f : σ → Bool) (s : CSt σ) : runM (CM.attr f) s = (.ok (f s.obj), s) := rfl
@[run_simps] theorem CM.runM_emit {σ} (e : WEv) (s : CSt σ) : runM (CM.emit e) s = (.ok (), { s with out := s.out ++ [e] }) := rfl

end Rx
