import RxModel.Lemmas.PlainPrims
import RxModel.Lemmas.Val
/-!
# The step simulation for `to_list`

RxPY `to_list` on the plain path, `scan(append, reduce=True)` on the keyed path; the keyed accumulator is a
`Val` list (`toListAcc`, Derived.lean), which is why it stands apart from Lemmas/PlainPrims.lean.
-/
namespace Rx

def toListSim : PrimSim (pToList Val.lst) (scanOp toListAcc (Val.lst []) true none) where
  R := fun (sp : List Val) (sl : Option Val) => sl.getD (Val.lst []) = Val.lst sp
  start := .inl ⟨rfl, rfl⟩
  step := by
    intro (sp : List Val) (sl : Option Val) x h
    show AgreesOut [] (scanNext toListAcc (Val.lst []) true sl x).2 ∧
      (_ → (scanNext toListAcc (Val.lst []) true sl x).1.getD (Val.lst []) = Val.lst (sp ++ [x]))
    rw [scanNext, h, toListAcc_lst]
    exact ⟨.of_items rfl, fun _ => rfl⟩
  err := fun _ _ _ h => ⟨rfl, h⟩
  fin := fun sp sl h => .of_items (congrArg (fun v => [v]) h.symm)

end Rx
