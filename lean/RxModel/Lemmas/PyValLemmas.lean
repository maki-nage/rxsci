import RxModel.PyVal
import RxModel.PyHandler
import RxModel.Lemmas.Val
/-!
# What the operations of `PyAlg` compute at `Val` on values of known shape

The generated code calls `PyAlg.lt`, `PyAlg.append`, `HM.popleft` … on values whose shape the link proofs know: ints, ints that
hold natural numbers (counters, slot indices), bools, `None`, lists.  A lemma is named `<operation>_<shape>`: `_int` a `Val.int`,
`_natV` a `Val.int` of a cast natural number, `_boolV` a `Val.bool`, `_noneV` `Val.none`, `_lst` a `Val.lst`, `_val` any value; a
literal operand is part of the name (`eq_natV0`, `add_natV1`, `lt_zero_natV`, `lt_int00`).  Outside the scheme: `eq_intZ` is `eq`
at `_int`, and `truthy_bool` is about `Val.truthy` (`truthy_boolV` is the one about `PyAlg.truthy`).  `PyAlg.<operation>_eq` says
what the operation is at `Val` in the terms of RxModel/Val.lean: a function of that file, or for `elems_eq` the `match` on
`Val.elems` that `Val.elemsE` makes.  `genPipe_append` is about the stage lists of RxModel/PyVal.lean.
-/
namespace Rx
open HM

theorem eq_val (a b : Val) : PyAlg.eq a b = decide (a = b) := by
  show (a == b) = _
  by_cases h : a = b <;> simp [h]

theorem eq_intZ (a b : Int) : PyAlg.eq (Val.int a) (Val.int b) = decide (a = b) := by
  simp only [eq_val, Val.int.injEq]

theorem isNone_int (a : Int) : PyAlg.isNone (Val.int a) = false := rfl
theorem isNone_noneV : PyAlg.isNone Val.none = true := rfl

/-! `by cases` on purpose: a lemma proved by `rfl` that rewrites the test of an `if` leaves the test's `Decidable` instance behind,
and the `if` then matches no lemma -/
theorem PyAlg.truthy_eq (v : Val) : PyAlg.truthy v = v.truthy := by cases v <;> rfl
theorem PyAlg.isTrue_eq (v : Val) : PyAlg.isTrue v = v.isTrue := by cases v <;> rfl

theorem truthy_bool (b : Bool) : Val.truthy (.bool b) = b := rfl
theorem truthy_boolV (b : Bool) : PyAlg.truthy (Val.bool b) = b := by cases b <;> rfl
theorem isTrue_boolV (b : Bool) : PyAlg.isTrue (Val.bool b) = b := by cases b <;> rfl
theorem isFalse_boolV (b : Bool) : PyAlg.isFalse (Val.bool b) = !b := by cases b <;> rfl

theorem add_int (a b : Int) : (PyAlg.add (Val.int a) (Val.int b) : Except Err Val) = .ok (.int (a + b)) := rfl
theorem sub_int (a b : Int) : (PyAlg.sub (Val.int a) (Val.int b) : Except Err Val) = .ok (.int (a - b)) := rfl
theorem le_int (a b : Int) : (PyAlg.le (Val.int a) (Val.int b) : Except Err Bool) = .ok (decide (a ≤ b)) := rfl
theorem lt_int (a b : Int) : (PyAlg.lt (Val.int a) (Val.int b) : Except Err Bool) = .ok (decide (a < b)) := rfl
theorem lt_int00 : (PyAlg.lt (PyAlg.int 0) (Val.int 0) : Except Err Bool) = .ok false := rfl

/-! Ints that hold natural numbers.  The results stay casts of naturals, so that an int used as a key component (`toIdx`) is the natural number itself.  Python's `%`
and `//` are floor operations (`Int.fmod`, `Int.fdiv`); on naturals they are `%` and `/`.  The forms at `0` and `1` are for the
literals of the generated code, which are not casts. -/

theorem eq_natV (a b : Nat) : PyAlg.eq (Val.int a) (Val.int b) = decide (a = b) := by
  rw [eq_intZ, decide_eq_decide, Int.natCast_inj]

theorem eq_natV0 (a : Nat) : PyAlg.eq (Val.int a) (Val.int 0) = decide (a = 0) := eq_natV a 0

theorem lt_zero_natV (c : Nat) : (PyAlg.lt (Val.int 0) (Val.int c) : Except Err Bool) = .ok (decide (0 < c)) := by
  rw [lt_int, decide_eq_decide.mpr Int.natCast_pos]

theorem add_natV (a b : Nat) : (PyAlg.add (Val.int a) (Val.int b) : Except Err Val) = .ok (.int ((a + b : Nat) : Int)) := by
  rw [Int.natCast_add]; rfl

theorem add_natV1 (a : Nat) : (PyAlg.add (Val.int a) (Val.int 1) : Except Err Val) = .ok (.int ((a + 1 : Nat) : Int)) := add_natV a 1

theorem sub_natV (a b : Nat) (h : b ≤ a) : (PyAlg.sub (Val.int a) (Val.int b) : Except Err Val) = .ok (.int ((a - b : Nat) : Int)) := by
  rw [Int.natCast_sub h]; rfl

theorem sub_natV1 (a : Nat) (h : 0 < a) : (PyAlg.sub (Val.int a) (Val.int 1) : Except Err Val) = .ok (.int ((a - 1 : Nat) : Int)) :=
  sub_natV a 1 h

theorem mul_natV (a b : Nat) : (PyAlg.mul (Val.int a) (Val.int b) : Except Err Val) = .ok (.int ((a * b : Nat) : Int)) := by
  rw [Int.natCast_mul]; rfl

theorem mod_natV (a b : Nat) (hb : b ≠ 0) :
    (PyAlg.mod (Val.int (a : Int)) (Val.int (b : Int)) : Except Err Val) = .ok (.int ((a % b : Nat) : Int)) := by
  show Val.modV _ _ = _
  simp [Val.modV, Val.toInt?, hb, Int.fmod_eq_emod_of_nonneg]

theorem floordiv_natV (a b : Nat) (hb : b ≠ 0) :
    (PyAlg.floordiv (Val.int (a : Int)) (Val.int (b : Int)) : Except Err Val) = .ok (.int ((a / b : Nat) : Int)) := by
  show Val.floordivV _ _ = _
  simp [Val.floordivV, Val.toInt?, hb, Int.fdiv_eq_ediv_of_nonneg]

theorem range_natV (d : Nat) :
    (PyAlg.range (Val.int (d : Int)) : Except Err (List Val)) = .ok ((List.range d).map (fun i => Val.int (i : Nat))) := by
  show Val.rangeV _ = _
  simp [Val.rangeV]

theorem toIdx_natV (n : Nat) : (toIdx (Val.int (n : Int)) : HM Val Nat) = pure n := rfl

theorem PyAlg.elems_eq (v : Val) :
    (PyAlg.elems v : Except Err (List Val)) = match v.elems with | some l => .ok l | .none => .error "TypeError" := by
  show Val.elemsE v = _
  unfold Val.elemsE
  cases v.elems <;> rfl

theorem elems_lst (q : List Val) : (PyAlg.elems (Val.lst q) : Except Err (List Val)) = .ok q := by
  rw [PyAlg.elems_eq, Val.elems_lst]

theorem append_lst (q : List Val) (x : Val) : (PyAlg.append (Val.lst q) x : Except Err Val) = .ok (Val.lst (q ++ [x])) :=
  toListAcc_lst q x

theorem len_lst (q : List Val) : (PyAlg.len (Val.lst q) : Except Err Val) = .ok (.int q.length) := by
  show Val.lenV _ = _
  simp only [Val.lenV, Val.lst, Val.elems, VList.toList_ofList]

theorem nth_lst (q : List Val) (i : Nat) : PyAlg.nth (Val.lst q) i = q.getD i .none := Val.nth_lst q i

theorem sum_lst (ms : List Val) : (PyAlg.sum (Val.lst ms) : Except Err Val) = D.pySum ms := by
  show Val.sumV _ = _
  simp only [Val.sumV, Val.elemsE, Val.elems_lst]
  rfl

theorem popleft_lst (q : List Val) :
    (popleft (Val.lst q) : Except Err Val) = match q with | [] => .error "IndexError" | _ :: r => .ok (Val.lst r) := by
  simp only [popleft, elems_lst, bind, Except.bind]
  cases q <;> rfl

theorem contains_lst (s : List Val) (k : Val) : (contains (Val.lst s) k : Except Err Bool) = .ok (decide (k ∈ s)) := by
  have : (s.any fun x => PyAlg.eq x k) = decide (k ∈ s) := by
    rw [Bool.eq_iff_iff, List.any_eq_true, decide_eq_true_eq]
    exact ⟨fun ⟨x, hx, he⟩ => (beq_iff_eq.1 he) ▸ hx, fun h => ⟨k, h, beq_self_eq_true k⟩⟩
  simp only [contains, elems_lst, bind, Except.bind, this, pure, Except.pure]

theorem setAdd_lst (s : List Val) (k : Val) : (setAdd (Val.lst s) k : Except Err Val) = .ok (Val.lst (k :: s)) := by
  simp only [setAdd, elems_lst, bind, Except.bind, pure, Except.pure, PyAlg.lst]

theorem genPipe_append (a b : List (GStage Val)) : genPipe (a ++ b) = (genPipe a).append (genPipe b) := by
  induction a with
  | nil => rfl
  | cons s a ih => simp only [genPipe, List.cons_append, List.map, Pipe.ofList, Pipe.append] at *; rw [ih]

end Rx
