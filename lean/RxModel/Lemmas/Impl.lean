import RxModel.Lemmas.Comp
/-!
# `impl_eq_ref`: the multiplexed interpretation of a pipeline equals the keyed reference lift of its
local meaning, by structural recursion over the pipeline syntax.

`Pipe.Supported` admits the flat pipelines: per-key operators only, to any length, on every
well-formed trace (mux errors and `on_error` included).  Splitters and `tee_map` are admitted by
`Pipe.Nested` (Lemmas/Nested.lean), on clean traces.  (`Implements` and `Impl` are defined in Lemmas/Implements.lean.)
-/
namespace Rx

mutual
/-- the stages of a flat pipeline: per-key operators -/
def Stage.Supported : Stage → Prop
  | .prim _ _ => True
  | .wrap _ _ _ => False
  | .tee _ _ => False
def Pipe.Supported : Pipe → Prop
  | .nil => True
  | .cons s rest => s.Supported ∧ rest.Supported
end

mutual
theorem Stage.implements : (s : Stage) → s.Supported → Implements s.mux s.loc
  | .prim L _, _ => lift_implements L
  | .wrap _ _ _, h => h.elim
  | .tee _ _, h => h.elim
theorem Pipe.implements : (P : Pipe) → P.Supported → Implements P.mux P.loc
  | .nil, _ => lift_implements idLocal
  | .cons s rest, h => comp_implements s.mux rest.mux s.loc rest.loc (s.implements h.1) (rest.implements h.2)
end

/-- **impl_eq_ref** (flat pipelines of per-key operators of any length): on every well-formed
trace — any number of keys, any interleaving, sparse and reused slot indices — the index-addressed
implementation emits, input event by input event, exactly what the keyed reference semantics emits -/
theorem impl_eq_ref (P : Pipe) (h : P.Supported) (t : List (Ev Val)) (ht : WF t) :
    P.mux.run t = (refLift P.loc).run t :=
  P.implements h t ht

end Rx
