import Lean.Meta.Tactic.Simp.RegisterCommand
/-- Lemmas that evaluate one construct of an effect monad `ExceptT Err (StateM σ)` of the generated code when it is run from a
state: the monad's plumbing (`RxModel/Lemmas/RunM.lean`) and, per monad, its primitives.  `simp only [run_simps, Gen.f, …]`
runs the generated definition `Gen.f` symbolically. -/
register_simp_attr run_simps
