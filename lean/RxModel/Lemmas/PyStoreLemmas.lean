import RxModel.PyStore
import RxModel.Lemmas.RunM
/-!
# The primitives of `OM` (the object of a `MemoryStore`), `SM` (the objects of a `Store`) and `MM` (the dict side of a mapper
state), RxModel/PyStore.lean, run from a state (as Lemmas/RunM.lean describes)
-/
namespace Rx
open OM

def runO {α} (m : OM α) (s : PyStoreSt) : Except Err α × PyStoreSt := (ExceptT.run m).run s

attribute [reducible] runO

@[run_simps] theorem OM.run_eq {α} (m : OM α) (o : PyStoreSt) : OM.run m o = runO m o := rfl

/-! three for a proof that rewrites by hand; they are not in `run_simps` (`runM_pure` is) -/
theorem OM.run_pure {α} (a : α) (o : PyStoreSt) : OM.run (pure a : OM α) o = (.ok a, o) := rfl
theorem OM.run_lenState (o : PyStoreSt) : OM.run OM.lenState o = (.ok o.state.length, o) := rfl
theorem runO_pure {α} (a : α) (s : PyStoreSt) : runO (pure a : OM α) s = (.ok a, s) := rfl

@[run_simps] theorem runO_lenState (o : PyStoreSt) : runO OM.lenState o = (.ok o.state.length, o) := rfl
@[run_simps] theorem runO_lenKeys (s : PyStoreSt) : runO OM.lenKeys s = (.ok s.keys.length, s) := rfl
@[run_simps] theorem runO_isMapper (o : PyStoreSt) : runO OM.isMapper o = (.ok (decide (o.dtype = .mapper)), o) := rfl
@[run_simps] theorem runO_isBoolType (o : PyStoreSt) : runO OM.isBoolType o = (.ok (decide (o.dtype = .bool)), o) := rfl
@[run_simps] theorem runO_defaultValue (o : PyStoreSt) : runO OM.defaultValue o = (.ok o.default, o) := rfl
@[run_simps] theorem runO_stateAppend (m : Marker) (o : PyStoreSt) :
    runO (OM.stateAppend m) o = (.ok (), { o with state := o.state ++ [m] }) := rfl
@[run_simps] theorem runO_keysAppend (k : Option Key) (o : PyStoreSt) :
    runO (OM.keysAppend k) o = (.ok (), { o with keys := o.keys ++ [k] }) := rfl

@[run_simps] theorem runO_valuesAppend (v : Val) (o : PyStoreSt) :
    runO (OM.valuesAppend v) o = match o.dtype.coerce v with
      | .ok w => (.ok (), { o with values := o.values ++ [w] })
      | .error e => (.error e, o) := by
  simp only [OM.valuesAppend, run_simps]
  cases o.dtype.coerce v <;> rfl

@[run_simps] theorem runO_valuesSet (i : Nat) (v : Val) (o : PyStoreSt) :
    runO (OM.valuesSet i v) o = if i < o.values.length then
        match o.dtype.coerce v with
        | .ok w => (.ok (), { o with values := o.values.set i w })
        | .error e => (.error e, o)
      else (.error "IndexError", o) := by
  simp only [OM.valuesSet, run_simps]
  cases o.dtype.coerce v <;> rfl

@[run_simps] theorem runO_stateSet (i : Nat) (m : Marker) (o : PyStoreSt) :
    runO (OM.stateSet i m) o
      = if i < o.state.length then (.ok (), { o with state := o.state.set i m }) else (.error "IndexError", o) := by
  simp only [OM.stateSet, run_simps]

@[run_simps] theorem runO_keysSet (i : Nat) (k : Option Key) (o : PyStoreSt) :
    runO (OM.keysSet i k) o
      = if i < o.keys.length then (.ok (), { o with keys := o.keys.set i k }) else (.error "IndexError", o) := by
  simp only [OM.keysSet, run_simps]

@[run_simps] theorem runO_stateGet (i : Nat) (o : PyStoreSt) :
    runO (OM.stateGet i) o = match o.state[i]? with | some m => (.ok m, o) | none => (.error "IndexError", o) := by
  simp only [OM.stateGet, run_simps]
  cases o.state[i]? <;> rfl

@[run_simps] theorem runO_valuesGet (i : Nat) (o : PyStoreSt) :
    runO (OM.valuesGet i) o = match o.values[i]? with | some v => (.ok v, o) | none => (.error "IndexError", o) := by
  simp only [OM.valuesGet, run_simps]
  cases o.values[i]? <;> rfl

@[run_simps] theorem runO_keysGet (i : Nat) (o : PyStoreSt) :
    runO (OM.keysGet i) o = match o.keys[i]? with | some k => (.ok k, o) | none => (.error "IndexError", o) := by
  simp only [OM.keysGet, run_simps]
  cases o.keys[i]? <;> rfl

/-- the filler `0` that growth and `del_key` write is accepted by every typed array: it is stored as the array's zero -/
theorem DType.coerce_zero (dt : DType) : dt.coerce (.int 0) = .ok dt.zero := by
  cases dt
  -- `decide` compares the two floats through their model; `rfl` would unfold `Float.ofInt` and the literal, which is slow to check
  case float => exact congrArg (fun f => Except.ok (Val.flt f)) (by decide : Float.ofInt 0 = 0.0)
  all_goals rfl

theorem DType.read_eq (dt : DType) (v : Val) : dt.read v = if dt = .bool then OM.pyBool v else v := by
  cases dt <;> rfl

@[run_simps] theorem SM.run_eq {α} (m : SM α) (tbl : List PyStoreSt) : SM.run m tbl = runM m tbl := rfl

@[run_simps] theorem SM.runM_onState {α} (i : Nat) (m : OM α) (tbl : List PyStoreSt) :
    runM (SM.onState i m) tbl = match tbl[i]? with
      | some st => ((runO m st).1, tbl.set i (runO m st).2)
      | none => (.error "IndexError", tbl) := by
  simp only [SM.onState, run_simps]
  cases tbl[i]? with
  | none => rfl
  | some st => simp only [run_simps]; cases (runO m st).1 <;> rfl

theorem SM.onState_frame {α} (i j : Nat) (hj : j ≠ i) (m : OM α) (tbl : List PyStoreSt) :
    (SM.run (SM.onState i m) tbl).2[j]? = tbl[j]? := by
  rw [SM.run_eq, SM.runM_onState]
  cases tbl[i]? with
  | none => rfl
  | some st => exact List.getElem?_set_ne hj.symm

/-- the dict after `d[k] = v` -/
def dictPut (m : List (Val × Nat)) (k : Val) (v : Nat) : List (Val × Nat) :=
  if m.any (fun p => p.1 = k) then m.map (fun p => if p.1 = k then (k, v) else p) else m ++ [(k, v)]

@[run_simps] theorem MM.run_eq {α} (m : MM α) (ms : MapSt) : MM.run m ms = runM m ms := rfl
@[run_simps] theorem MM.runM_getNextIndex (ms : MapSt) : runM MM.getNextIndex ms = (.ok ms.nextIndex, ms) := rfl
@[run_simps] theorem MM.runM_getFreeSlots (ms : MapSt) : runM MM.getFreeSlots ms = (.ok ms.freeSlots, ms) := rfl
@[run_simps] theorem MM.runM_setNextIndex (n : Nat) (ms : MapSt) :
    runM (MM.setNextIndex n) ms = (.ok (), { ms with nextIndex := n }) := rfl
@[run_simps] theorem MM.runM_setFreeSlots (l : List Nat) (ms : MapSt) :
    runM (MM.setFreeSlots l) ms = (.ok (), { ms with freeSlots := l }) := rfl

@[run_simps] theorem MM.runM_dictOf (i : Nat) (ms : MapSt) :
    runM (MM.dictOf i) ms = match ms.dicts[i]? with
      | some (some m) => (.ok m, ms)
      | some none => (.error "TypeError", ms)
      | none => (.error "IndexError", ms) := by
  simp only [MM.dictOf, run_simps]
  rcases ms.dicts[i]? with _ | _ | _ <;> rfl

@[run_simps] theorem MM.runM_dictSet (i : Nat) (k : Val) (v : Nat) (ms : MapSt) :
    runM (MM.dictSet i k v) ms
      = thenRun (runM (MM.dictOf i) ms) fun m ms' => (.ok (), { ms' with dicts := ms'.dicts.set i (some (dictPut m k v)) }) := by
  simp only [MM.dictSet, runM_bind, runM_modify, dictPut]

@[run_simps] theorem MM.runM_dictContains (i : Nat) (k : Val) (ms : MapSt) :
    runM (MM.dictContains i k) ms = thenRun (runM (MM.dictOf i) ms) fun m ms' => (.ok (m.any (fun p => p.1 = k)), ms') := by
  simp only [MM.dictContains, runM_bind, runM_pure]

@[run_simps] theorem MM.runM_dictGet (i : Nat) (k : Val) (ms : MapSt) :
    runM (MM.dictGet i k) ms = thenRun (runM (MM.dictOf i) ms) fun m ms' =>
      match m.find? (fun p => p.1 = k) with
      | some p => (.ok p.2, ms')
      | none => (.error "KeyError", ms') := by
  simp only [MM.dictGet, runM_bind]
  congr 1
  funext m ms'
  cases m.find? (fun p => p.1 = k) <;> rfl

@[run_simps] theorem MM.runM_dictKeys (i : Nat) (ms : MapSt) :
    runM (MM.dictKeys i) ms = thenRun (runM (MM.dictOf i) ms) fun m ms' => (.ok (m.map (·.1)), ms') := by
  simp only [MM.dictKeys, runM_bind, runM_pure]

end Rx
