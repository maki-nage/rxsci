import RxModel.Framing
import RxModel.Lemmas.Chunked
/-!
# The two un-framers of RxModel/Framing.lean

`splitC` (Python's `str.split`, also under the csv parser of C18) is core's `List.splitOn`.  Both
un-framers are greedy parsers that `Splits` (`lineP_splits`, `lpParse_splits`), so chunk invariance is
`Splits.chunked_eq_parse`.  For the length prefix, `fromBytes` inverts `toBytes` (`int.from_bytes`,
`int.to_bytes`) at every prefix size and in both byte orders.
-/
namespace Rx

theorem splitC_eq_splitOn {α} [DecidableEq α] (sep : α) (l : List α) : splitC sep l = l.splitOn sep := by
  induction l with
  | nil => rfl
  | cons c cs ih =>
    rw [splitC, List.splitOn_cons_eq_if_modifyHead, ih]
    by_cases hc : c = sep
    · rw [if_pos hc, if_pos (beq_iff_eq.mpr hc)]
    · rw [if_neg hc, if_neg (mt beq_iff_eq.mp hc)]
      cases h : cs.splitOn sep with
      | nil => exact absurd h (List.splitOn_ne_nil sep cs)
      | cons p ps => rfl

theorem splitC_ne_nil {α} [DecidableEq α] (sep : α) (l : List α) : splitC sep l ≠ [] :=
  splitC_eq_splitOn sep l ▸ List.splitOn_ne_nil sep l

theorem splitC_nosep {α} [DecidableEq α] (sep : α) (a : List α) (ha : sep ∉ a) :
    splitC sep a = [a] :=
  (splitC_eq_splitOn sep a).trans (List.splitOn_eq_singleton ha)

theorem splitC_append_cons_self {α} [DecidableEq α] (sep : α) (a b : List α) :
    splitC sep (a ++ sep :: b) = splitC sep a ++ splitC sep b := by
  simp only [splitC_eq_splitOn, List.splitOn_append_cons_self]

theorem splitC_cons_ne {α} [DecidableEq α] (sep x : α) (t : List α) (hx : x ≠ sep) :
    splitC sep (x :: t) = (x :: (splitC sep t).headD []) :: (splitC sep t).tail := by
  rw [splitC, if_neg hx]
  cases splitC sep t <;> rfl

theorem lastP_eq_getLast {α} {l : List (List α)} (h : l ≠ []) : lastP l = l.getLast h := by
  cases l with
  | nil => exact absurd rfl h
  | cons a l => exact List.getLastD_cons.trans (List.getLast_eq_getLastD h).symm

theorem lastP_mem {α} (l : List (List α)) (h : l ≠ []) : lastP l ∈ l :=
  lastP_eq_getLast h ▸ List.getLast_mem h

theorem lastP_append {α} {a b : List (List α)} (hb : b ≠ []) : lastP (a ++ b) = lastP b := by
  rw [lastP_eq_getLast (List.append_ne_nil_of_right_ne_nil a hb), lastP_eq_getLast hb, List.getLast_append_right hb]

theorem dropLast_lastP {α} (l : List (List α)) (h : l ≠ []) : l.dropLast ++ [lastP l] = l :=
  lastP_eq_getLast h ▸ List.dropLast_concat_getLast h

theorem splitC_append {α} [DecidableEq α] (sep : α) (a b : List α) :
    splitC sep (a ++ b) = (splitC sep a).dropLast ++ splitC sep (lastP (splitC sep a) ++ b) := by
  induction a with
  | nil => rfl
  | cons c cs ih =>
    obtain ⟨p, ps, hs⟩ := List.exists_cons_of_ne_nil (splitC_ne_nil sep cs)
    by_cases hc : c = sep
    · simp only [List.cons_append, splitC, if_pos hc, ih, hs]
      rfl
    · rw [List.cons_append, splitC_cons_ne sep c _ hc, splitC_cons_ne sep c _ hc, ih, hs]
      -- `c` goes onto the first piece `p`; if that is also the last one, it is the piece `b` is glued to
      cases ps with
      | nil => exact (splitC_cons_ne sep c _ hc).symm
      | cons q qs => rfl

theorem splitC_nosep_append {α} [DecidableEq α] (sep : α) (a c : List α) (ha : sep ∉ a) :
    splitC sep (a ++ c) =
      match splitC sep c with
      | [] => [a]
      | l0 :: rest => (a ++ l0) :: rest := by
  obtain ⟨p, ps, hs⟩ := List.exists_cons_of_ne_nil (splitC_ne_nil sep c)
  rw [hs]
  induction a with
  | nil => exact hs
  | cons x xs ih =>
    rw [List.cons_append, splitC_cons_ne sep x _ (fun h => ha (h ▸ List.mem_cons_self)),
      ih (fun h => ha (List.mem_cons_of_mem x h))]
    rfl

theorem splitC_pieces_nosep {α} [DecidableEq α] (sep : α) (l : List α) :
    ∀ p ∈ splitC sep l, sep ∉ p := by
  induction l with
  | nil => simp [splitC]
  | cons c cs ih =>
    obtain ⟨q, qs, hs⟩ := List.exists_cons_of_ne_nil (splitC_ne_nil sep cs)
    rw [hs] at ih
    by_cases hc : c = sep
    · rw [splitC, if_pos hc, hs]
      exact List.forall_mem_cons.mpr ⟨List.not_mem_nil, ih⟩
    · rw [splitC_cons_ne sep c cs hc, hs]
      obtain ⟨hq, hqs⟩ := List.forall_mem_cons.mp ih
      exact List.forall_mem_cons.mpr ⟨fun h => (List.mem_cons.mp h).elim (Ne.symm hc) hq, hqs⟩

theorem lastP_splitC_nosep {α} [DecidableEq α] (sep : α) (l : List α) :
    sep ∉ lastP (splitC sep l) :=
  splitC_pieces_nosep sep l _ (lastP_mem _ (splitC_ne_nil sep l))

theorem splitC_append_nosep {α} [DecidableEq α] (sep : α) (a b : List α) (hb : sep ∉ b) :
    splitC sep (a ++ b) = (splitC sep a).dropLast ++ [lastP (splitC sep a) ++ b] := by
  rw [splitC_append, splitC_nosep sep (lastP (splitC sep a) ++ b)]
  exact fun h => (List.mem_append.mp h).elim (lastP_splitC_nosep sep a) hb

theorem splitC_frames {α} [DecidableEq α] (sep : α) (items : List (List α)) (tail : List α)
    (hi : ∀ it ∈ items, sep ∉ it) (ht : sep ∉ tail) :
    splitC sep ((items.map (· ++ [sep])).flatten ++ tail) = items ++ [tail] := by
  induction items with
  | nil => exact splitC_nosep sep tail ht
  | cons it items ih =>
    rw [List.map_cons, List.flatten_cons, List.append_assoc, List.append_assoc, List.singleton_append,
      splitC_append_cons_self, splitC_nosep sep it (hi it List.mem_cons_self),
      ih fun i h => hi i (List.mem_cons_of_mem it h)]
    rfl

/-- the line un-framer as a greedy parser: the complete lines of `b` and its unterminated rest
(`lineRunG_chunked`) -/
def lineP {α} [DecidableEq α] (nl : α) (b : List α) : List (List α) × List α :=
  ((splitC nl b).dropLast, lastP (splitC nl b))

theorem lineP_splits {α} [DecidableEq α] (nl : α) : Splits (lineP nl) := fun b m => by
  unfold lineP
  rw [splitC_append nl b m, List.dropLast_append_of_ne_nil (splitC_ne_nil _ _),
    lastP_append (splitC_ne_nil _ _)]

theorem lineFeedG_eq {α} [DecidableEq α] (nl : α) (acc c : List α) (ha : nl ∉ acc) :
    lineFeedG nl acc c = lineP nl (acc ++ c) := by
  obtain ⟨p, ps, h⟩ := List.exists_cons_of_ne_nil (splitC_ne_nil nl c)
  rw [lineFeedG, lineP, splitC_nosep_append nl acc c ha, h]

theorem lineRunG_chunked {α} [DecidableEq α] (nl : α) (acc : List α) (cs : List (List α)) (ha : nl ∉ acc) :
    lineRunG nl acc cs = ((chunked (lineP nl) acc cs).1, lineFinishG (chunked (lineP nl) acc cs).2) := by
  induction cs generalizing acc with
  | nil => rfl
  | cons c cs ih =>
    rw [lineRunG, lineFeedG_eq nl acc c ha, ih (lineP nl (acc ++ c)).2 (lastP_splitC_nosep nl (acc ++ c))]
    rfl

theorem lineRunG_eq {α} [DecidableEq α] (nl : α) (acc : List α) (cs : List (List α)) (ha : nl ∉ acc) :
    (lineRunG nl acc cs).1.flatten = (splitC nl (acc ++ cs.flatten)).dropLast ∧
    (lineRunG nl acc cs).2 = lineFinishG (lastP (splitC nl (acc ++ cs.flatten))) := by
  have hacc : lineP nl acc = ([], acc) := by rw [lineP, splitC_nosep nl acc ha]; rfl
  obtain ⟨h1, h2⟩ := Prod.ext_iff.mp ((lineP_splits nl).chunked_eq_parse acc cs hacc)
  rw [lineRunG_chunked nl acc cs ha]
  exact ⟨h1, congrArg lineFinishG h2⟩

/-- `C15_line` for any character type (C19 reads lines of code points) -/
theorem lineRunG_frames {α} [DecidableEq α] (nl : α) (items : List (List α)) (tail : List α) (cs : List (List α))
    (hi : ∀ it ∈ items, nl ∉ it) (ht : nl ∉ tail)
    (hcs : cs.flatten = (items.map (· ++ [nl])).flatten ++ tail) :
    (lineRunG nl [] cs).1.flatten = items ∧
    (lineRunG nl [] cs).2 = (if tail = [] then [] else [tail]) := by
  have h := lineRunG_eq nl [] cs List.not_mem_nil
  rw [List.nil_append, hcs, splitC_frames nl items tail hi ht, List.dropLast_concat,
    lastP_append (List.cons_ne_nil tail [])] at h
  refine ⟨h.1, h.2.trans ?_⟩
  cases tail <;> rfl

theorem lineFeed_eq (acc c : List Char) (ha : '\n' ∉ acc) :
    lineFeed acc c = ((splitC '\n' (acc ++ c)).dropLast, lastP (splitC '\n' (acc ++ c))) :=
  lineFeedG_eq '\n' acc c ha

theorem lineRun_eq : ∀ (cs : List (List Char)) (acc : List Char), '\n' ∉ acc →
    (lineRun acc cs).1.flatten = (splitC '\n' (acc ++ cs.flatten)).dropLast ∧
    (lineRun acc cs).2 = lineFinish (lastP (splitC '\n' (acc ++ cs.flatten))) :=
  fun cs acc => lineRunG_eq '\n' acc cs

theorem toBytesLE_length (p n : Nat) : (toBytesLE p n).length = p := by
  induction p generalizing n with
  | zero => rfl
  | succ p ih => simp [toBytesLE, ih]

theorem toBytesLE_lt (p n : Nat) : ∀ b ∈ toBytesLE p n, b < 256 := by
  induction p generalizing n with
  | zero => simp [toBytesLE]
  | succ p ih =>
    intro b hb
    simp only [toBytesLE, List.mem_cons] at hb
    rcases hb with rfl | hb
    · exact Nat.mod_lt _ (by decide)
    · exact ih _ b hb

/-- `fromBytes_toBytes` for the little-endian digits, which both byte orders are written with -/
theorem from_to_LE : ∀ (p n : Nat), n < 256 ^ p → fromBytesLE (toBytesLE p n) = n := by
  intro p
  induction p with
  | zero => intro n h; simp at h; simp [toBytesLE, fromBytesLE, h]
  | succ p ih =>
    intro n h
    have h2 : n / 256 < 256 ^ p := by
      rw [Nat.pow_succ] at h
      exact Nat.div_lt_of_lt_mul (by rw [Nat.mul_comm]; exact h)
    simp only [toBytesLE, fromBytesLE, ih _ h2]
    exact Nat.mod_add_div n 256

theorem toBytes_length (big : Bool) (p n : Nat) : (toBytes big p n).length = p := by
  unfold toBytes; split <;> simp [toBytesLE_length]

theorem fromBytes_toBytes (big : Bool) (p n : Nat) (h : n < 256 ^ p) :
    fromBytes big (toBytes big p n) = n := by
  unfold toBytes fromBytes; split <;> simp [from_to_LE p n h]

theorem toBytes_lt (big : Bool) (p n : Nat) : ∀ b ∈ toBytes big p n, b < 256 := by
  unfold toBytes
  split
  · exact fun b hb => toBytesLE_lt p n b (List.mem_reverse.mp hb)
  · exact toBytesLE_lt p n

theorem lpParse_cons (big : Bool) {p : Nat} (hp : 0 < p) {hd : List Nat} (body rest : List Nat)
    (hl : hd.length = p) (hs : fromBytes big hd = body.length) :
    lpParse big p (hd ++ (body ++ rest)) = (body :: (lpParse big p rest).1, (lpParse big p rest).2) := by
  have htake : (hd ++ (body ++ rest)).take p = hd := List.take_left' hl
  rw [lpParse.eq_1, dif_pos ⟨hp, by rw [List.length_append, hl]; exact Nat.le_add_right _ _⟩]
  simp only [htake, hs]
  rw [dif_pos (by rw [List.length_append, List.length_append, hl, Nat.add_sub_cancel_left]; exact Nat.le_add_right _ _),
    List.drop_left' hl, List.take_left, ← hl, ← List.length_append, ← List.append_assoc, List.drop_left]

theorem lpParse_stuck (big : Bool) (p : Nat) (buf : List Nat)
    (h : 0 < p → p ≤ buf.length → buf.length - p < fromBytes big (buf.take p)) :
    lpParse big p buf = ([], buf) := by
  rw [lpParse.eq_1]
  by_cases h1 : 0 < p ∧ p ≤ buf.length
  · exact (dif_pos h1).trans (dif_neg (Nat.not_le.mpr (h h1.1 h1.2)))
  · exact dif_neg h1

/-- a strict prefix of a frame is stuck: its length prefix, if whole, announces more than is there -/
theorem lpParse_prefix (big : Bool) {p : Nat} {hd : List Nat} (body : List Nat) (hl : hd.length = p)
    (hs : fromBytes big hd = body.length) (k : Nat) (hk : k < p + body.length) :
    lpParse big p ((hd ++ body).take k) = ([], (hd ++ body).take k) := by
  refine lpParse_stuck big p _ fun _ hpk => ?_
  rw [List.length_take, List.length_append, hl, Nat.min_eq_left (Nat.le_of_lt hk)] at hpk ⊢
  rw [List.take_take, Nat.min_eq_left hpk, List.take_left' hl, hs]
  exact Nat.sub_lt_left_of_lt_add hpk hk

theorem lpParse_nil (big : Bool) (p : Nat) : lpParse big p [] = ([], []) :=
  lpParse_stuck big p [] fun hp h => absurd h (Nat.not_le.mpr hp)

theorem lpParse_cases (big : Bool) (p : Nat) (buf : List Nat) :
    lpParse big p buf = ([], buf) ∨
    ∃ hd body rest, buf = hd ++ (body ++ rest) ∧ 0 < p ∧ hd.length = p ∧ fromBytes big hd = body.length := by
  by_cases h : 0 < p → p ≤ buf.length → buf.length - p < fromBytes big (buf.take p)
  · exact Or.inl (lpParse_stuck big p buf h)
  · simp only [Classical.not_imp, Nat.not_lt] at h
    obtain ⟨hp, hlen, hsz⟩ := h
    refine Or.inr ⟨buf.take p, (buf.drop p).take (fromBytes big (buf.take p)),
      (buf.drop p).drop (fromBytes big (buf.take p)), ?_, hp, ?_, ?_⟩
    · rw [List.take_append_drop, List.take_append_drop]
    · rw [List.length_take, Nat.min_eq_left hlen]
    · rw [List.length_take, List.length_drop, Nat.min_eq_left hsz]

theorem lpParse_splits (big : Bool) (p : Nat) : Splits (lpParse big p) := by
  intro b
  induction hn : b.length using Nat.strongRecOn generalizing b with
  | ind n ih =>
    intro m
    rcases lpParse_cases big p b with hb | ⟨hd, body, rest, rfl, hp, hl, hs⟩
    · rw [hb]; rfl
    · rw [List.append_assoc, List.append_assoc, lpParse_cons big hp body _ hl hs,
        lpParse_cons big hp body rest hl hs,
        ih rest.length (by
          rw [← hn, List.length_append, List.length_append, hl]
          exact Nat.lt_of_lt_of_le (Nat.lt_add_of_pos_left hp) (Nat.add_le_add_left (Nat.le_add_left _ _) p)) rest rfl]
      rfl

theorem lpRun_chunked (big : Bool) (p : Nat) (acc : List Nat) (cs : List (List Nat)) :
    lpRun big p acc cs = chunked (lpParse big p) acc cs := by
  induction cs generalizing acc with
  | nil => rfl
  | cons c cs ih => rw [lpRun, lpFeed, ih]; rfl

theorem lpRun_eq_parse (big : Bool) (p : Nat) (cs : List (List Nat)) (acc : List Nat)
    (hacc : lpParse big p acc = ([], acc)) :
    ((lpRun big p acc cs).1.flatten, (lpRun big p acc cs).2) = lpParse big p (acc ++ cs.flatten) :=
  lpRun_chunked big p acc cs ▸ (lpParse_splits big p).chunked_eq_parse acc cs hacc

theorem lpParse_frames (big : Bool) (p : Nat) (hp : 0 < p) (items : List (List Nat)) (tail : List Nat)
    (hlen : ∀ it ∈ items, it.length < 256 ^ p) (htail : lpParse big p tail = ([], tail)) :
    lpParse big p ((items.map (fun it => toBytes big p it.length ++ it)).flatten ++ tail) = (items, tail) := by
  induction items with
  | nil => exact htail
  | cons it items ih =>
    rw [List.map_cons, List.flatten_cons, List.append_assoc, List.append_assoc,
      lpParse_cons big hp it _ (toBytes_length big p _) (fromBytes_toBytes big p _ (hlen it List.mem_cons_self)),
      ih fun i hi => hlen i (List.mem_cons_of_mem it hi)]

theorem filterMap_lpFrame (big : Bool) (p : Nat) (items : List (List Nat)) (h : ∀ it ∈ items, it.length < 256 ^ p) :
    items.filterMap (lpFrame big p) = items.map (fun it => toBytes big p it.length ++ it) := by
  induction items with
  | nil => rfl
  | cons it items ih =>
    rw [List.filterMap_cons, lpFrame, if_pos (h it List.mem_cons_self), List.map_cons,
      ih fun i hi => h i (List.mem_cons_of_mem it hi)]

end Rx
