import RxModel.Spec
/-!
# The observer of a splitter's command stream

How the splitter theorems (C04–C07) reach `LSplit.windows`: an invariant `I pre st ob` relating the
items consumed so far, the splitter's state and the observer is carried along `runObsRaw` item by
item (`runObsRaw_inv`), and `LSplit.windows_inv` hands back the final state and observer with the
invariant and with `windows` written in their terms.

The sequential splitters (`split`, `time_split`, tumbling `roll`) use the single local id 0 and open
and close it in alternation.  That shape is checked once per splitter (`LSplit.Seq`: `seqEnd` folds a
command list over the open/closed flag and the items delivered) and read twice: by the observer here
(`seqEnd_obs`: nothing is lost, `LSplit.Seq.partition`) and by the naming of the inner keys in
Lemmas/SimSeq.lean (`seq_tr`).
-/
namespace Rx

theorem obsRun_cons {α} (ob : Obs α) (e : Cmd α) (es : List (Cmd α)) :
    obsRun ob (e :: es) = obsRun (obsStep ob e) es := rfl

theorem obsRun_append {α} (ob : Obs α) (es fs : List (Cmd α)) :
    obsRun ob (es ++ fs) = obsRun (obsRun ob es) fs := List.foldl_append

theorem runObsRaw_inv {τ α : Type} (next : τ → α → τ × List (Cmd α)) (I : List α → τ → Obs α → Prop)
    (step : ∀ pre st ob x, I pre st ob → I (pre ++ [x]) (next st x).1 (obsRun ob (next st x).2))
    (xs pre : List α) (st : τ) (ob : Obs α) (h : I pre st ob) :
    I (pre ++ xs) (runObsRaw next (st, ob) xs).1 (runObsRaw next (st, ob) xs).2 := by
  induction xs generalizing pre st ob with
  | nil => rwa [List.append_nil]
  | cons x xs ih =>
    have := ih (pre ++ [x]) _ _ (step pre st ob x h)
    rwa [List.append_assoc] at this

theorem LSplit.windows_inv {α} (ls : LSplit α) (I : List α → ls.τ → Obs α → Prop)
    (init : I [] ls.init Obs.empty)
    (step : ∀ pre st ob x, I pre st ob → I (pre ++ [x]) (ls.next st x).1 (obsRun ob (ls.next st x).2))
    (xs : List α) :
    ∃ st ob, I xs st ob ∧ ls.windows xs = (ob.closed, (obsRun ⟨ob.opn, []⟩ (ls.fin st)).closed) :=
  ⟨_, _, runObsRaw_inv ls.next I step xs [] _ _ init, rfl⟩

theorem obsRun_cls {α} {offs : List Nat} {ob : Obs α} (hnd : offs.Nodup) :
    (obsRun ob (offs.map Cmd.cls)).closed = ob.closed ++ offs.map fun o => (ob.opn o).getD [] := by
  induction offs generalizing ob with
  | nil => exact (List.append_nil _).symm
  | cons off offs ih =>
    obtain ⟨hnot, hnd'⟩ := List.nodup_cons.mp hnd
    rw [List.map_cons, obsRun_cons, ih hnd', List.map_cons]
    show ob.closed ++ [(ob.opn off).getD []] ++ _ = _
    rw [List.append_assoc, List.singleton_append]
    congr 2
    apply List.map_congr_left
    intro o ho
    have hne : o ≠ off := fun h => hnot (h ▸ ho)
    simp only [obsStep, upd, hne, if_false]

/-- a command list over the single local id 0 run on the open/closed flag and the items delivered so far
(`none` if it does not respect open/closed alternation) -/
def seqEnd {α} : Bool → List α → List (Cmd α) → Option (Bool × List α)
  | b, acc, [] => some (b, acc)
  | false, acc, .opn 0 :: cs => seqEnd true acc cs
  | true, acc, .itm 0 x :: cs => seqEnd true (acc ++ [x]) cs
  | true, acc, .cls 0 :: cs => seqEnd false acc cs
  | _, _, _ => none

/-- what the lifetimes of a sequential splitter hold together: the completed ones, then the open one -/
def Obs.held {α} (ob : Obs α) : List α := ob.closed.flatten ++ (ob.opn 0).getD []

theorem seqEnd_obs {α} {b b' : Bool} {acc acc' : List α} {cmds : List (Cmd α)} (h : seqEnd b acc cmds = some (b', acc')) :
    ∀ ob : Obs α, (ob.opn 0).isSome = b → ob.held = acc →
      ((obsRun ob cmds).opn 0).isSome = b' ∧ (obsRun ob cmds).held = acc' := by
  fun_induction seqEnd b acc cmds with
  | case1 b acc => intro ob hb hh; cases h; exact ⟨hb, hh⟩
  | case2 acc cs ih =>
    intro ob hb hh
    refine ih h (obsStep ob (.opn 0)) rfl (Eq.trans ?_ hh)
    rw [Option.isSome_eq_false_iff, Option.isNone_iff_eq_none] at hb
    show ob.closed.flatten ++ [] = ob.closed.flatten ++ (ob.opn 0).getD []
    rw [hb]; rfl
  | case3 acc x cs ih =>
    intro ob hb hh
    obtain ⟨cur, hc⟩ := Option.isSome_iff_exists.mp hb
    refine ih h (obsStep ob (.itm 0 x)) ?_ ?_
    · show ((ob.opn 0).map _).isSome = _; rw [hc]; rfl
    · show ob.closed.flatten ++ ((ob.opn 0).map (· ++ [x])).getD [] = _
      rw [← hh, Obs.held, hc]
      exact (List.append_assoc ..).symm
  | case4 acc cs ih =>
    intro ob hb hh
    refine ih h (obsStep ob (.cls 0)) rfl (Eq.trans ?_ hh)
    show (ob.closed ++ [(ob.opn 0).getD []]).flatten ++ [] = _
    rw [List.flatten_concat, List.append_nil]; rfl
  | case5 => cases h

/-- the commands of `r`, the answer to item `x`, alternate properly from open/closed state `b`, end in
the state of `r.1` and deliver `x` once -/
def SeqChk {α τ : Type} (isOpen : τ → Bool) (b : Bool) (x : α) (r : τ × List (Cmd α)) : Prop :=
  ∀ acc, seqEnd b acc r.2 = some (isOpen r.1, acc ++ [x])

theorem SeqChk.ite {α τ : Type} {isOpen : τ → Bool} {b : Bool} {x : α} {c : Prop} [Decidable c] {r1 r2 : τ × List (Cmd α)}
    (h1 : SeqChk isOpen b x r1) (h2 : SeqChk isOpen b x r2) : SeqChk isOpen b x (if c then r1 else r2) := by
  split <;> assumption

/-- `ls` is a sequential splitter: its inner lifetime 0 is open exactly in the states `isOpen` -/
structure LSplit.Seq {α} (ls : LSplit α) (isOpen : ls.τ → Bool) : Prop where
  init : isOpen ls.init = false
  next : ∀ t x, SeqChk isOpen (isOpen t) x (ls.next t x)
  fin : ∀ t, ls.fin t = if isOpen t then [.cls 0] else []

theorem LSplit.Seq.fin_end {α} {ls : LSplit α} {isOpen : ls.τ → Bool} (sq : ls.Seq isOpen) (t : ls.τ) :
    seqEnd (isOpen t) [] (ls.fin t) = some (false, []) := by
  rw [sq.fin]; cases isOpen t <;> rfl

/-- every item is delivered to exactly one window, in order: the windows completed while items
arrive, then the one completed at the end, concatenate to the input -/
theorem LSplit.Seq.partition {α} {ls : LSplit α} {isOpen : ls.τ → Bool} (sq : ls.Seq isOpen) (xs : List α) :
    ((ls.windows xs).1 ++ (ls.windows xs).2).flatten = xs := by
  obtain ⟨st, ob, ⟨ho, hh⟩, hw⟩ := ls.windows_inv (fun pre st ob => (ob.opn 0).isSome = isOpen st ∧ ob.held = pre)
    ⟨sq.init.symm, rfl⟩ (fun pre st ob x ⟨ho, hh⟩ => seqEnd_obs (sq.next st x pre) ob ho hh) xs
  rw [hw, sq.fin, ← ho, ← hh, List.flatten_append, Obs.held]
  cases h : ob.opn 0 with
  | none => rfl
  | some cur =>
    show _ ++ ([] ++ [(ob.opn 0).getD []]).flatten = _
    rw [h]
    exact congrArg _ (List.append_nil cur)

theorem splitLS_seq {α κ} [DecidableEq κ] (p : α → κ) : (splitLS p).Seq fun t => t.isSome where
  init := rfl
  next := fun t x => by
    cases t with
    | none => exact fun _ => rfl
    | some c => exact .ite (fun _ => rfl) fun _ => rfl
  fin := fun t => by cases t <;> rfl

theorem timeSplitLS_seq {α} (c : TsCfg α) : (timeSplitLS c).Seq fun (t : Option (Int × Int)) => t.isSome where
  init := rfl
  next := fun (t : Option (Int × Int)) x => by
    cases t <;> exact .ite (fun _ => rfl) (.ite (.ite (fun _ => rfl) fun _ => rfl) fun _ => rfl)
  fin := fun (t : Option (Int × Int)) => by cases t <;> rfl

theorem rollCountLS_seq {α} (w : Nat) : (rollCountLS (α := α) w).Seq fun (c : Nat) => decide (c > 0) where
  init := rfl
  next := fun (c : Nat) x => by cases c <;> exact .ite (fun _ => rfl) fun _ => rfl
  fin := fun (c : Nat) => by cases c <;> rfl

end Rx
