import RxModel.Event
import RxModel.Lemmas.RunAttr
/-!
# Running the effect monads of the generated code

Every monad the translators of `harness/pygen.py` target (`HM`, `PM`, `RM`, `OM`, `SM`, `MM`, `TM`, `BM`, `CM`) is
`ExceptT Err (StateM σ)` for its own state record `σ`.  `runM` runs one from a state; the lemmas below evaluate the
monad's plumbing, so a link proof unfolds the generated definition and the primitives it calls, never `bind` itself.
`runM` is reducible: a run function of the proofs (`runS` for `HM`, `runP` for `PM`, `runR`, `runO`, `runT`, `runB`), declared
reducible next to its definition, is evaluated by these lemmas as it stands.  A run function of the model (`PM.run`, `OM.run`, …)
cannot be made reducible from another module: an equation `X.run_eq : X.run m s = runX m s`, tagged `run_simps` next to the
monad's primitives, rewrites it first; `SM`, `MM`, `CM` have no `runX` and go to `runM` itself (`= runM m s`), so the lemma of a
primitive `p` is called `runX_p` in the first case and `X.runM_p` in the second.

The lemma of a primitive `p` under `run_simps` is `run p s = …`, unconditional (where `p` can fail, the right side is the `match`
or `if` on the state that decides it); what follows `p` in a block is reached by `runM_bind` and `thenRun_ok`.  In `HM` and
`PM`, whose handlers are long, the primitives that occur inside blocks (and `RM.emit`) also have `run (p >>= f) s = …`, one
rewrite for three (`runM_bind` is `low`, so it goes first), and the four reads of `HM` that raise on a cleared slot (`getState`,
`getMap`, `addMap`, `iterateMap`) have that form alone: the translators name the value of every call (`let t ← p`), so in
generated code a primitive that returns a value never ends a block (in a block written by hand that does: `rw [← bind_pure p]`).

A lemma about one loop of a generated handler (`gb_loop`, `deliver_body`, `grow_loop_j`, …) states the loop as `unfold Gen.f`
displays it, the translator's temporaries (`t12`) and lifts included: `simp only` with the lemma, or an instance of it, then finds
the loop in the unfolded handler.

The lemmas before `runM` are about blocks in plain `Except`, the monad of the kernels and codecs that are translated as pure
functions (`ok_bind` … `tryCatch_rethrowJ`), and about what `do` notation makes of a block in any monad (`ite_then_seq`,
`forIn_range_toNat_guard`, `ite_ite_else`).
-/
namespace Rx

/-- one fact under three names -/
theorem ok_bind {ε α β} (a : α) (f : α → Except ε β) : (Except.ok a >>= f) = f a := rfl
theorem ok_bind' {ε α β} (a : α) (f : α → Except ε β) : (Except.ok a >>= f) = f a := ok_bind a f
theorem ok_bind2 {ε α β} (a : α) (f : α → Except ε β) : (Except.ok a >>= f) = f a := ok_bind a f
theorem err_bind {ε α β} (e : ε) (f : α → Except ε β) : (Except.error e >>= f) = Except.error e := rfl

/-- a short-circuit `and` whose second operand does not raise -/
theorem and_block {ε} (p : Prop) [Decidable p] (x : Bool) :
    (if p then Except.ok x else Except.ok false : Except ε Bool) = .ok (decide p && x) := by
  split <;> simp only [*, decide_true, decide_false, Bool.true_and, Bool.false_and]

/-- `try: … except Exception as e: if ignore_error: …; raise e` with `ignore_error=False` (`J`: as `load_json` of
container/json.py writes it; `parse_line` of container/csv.py does the same) -/
theorem tryCatch_rethrowJ {α} (m : Except Err (Option α)) :
    tryCatch m (fun e => if false = true then pure none else throw e) = m := by
  cases m <;> rfl

/-- `if c: stmt` followed by the rest of a block (do-notation puts the rest in both branches) -/
theorem ite_then_seq {m : Type → Type} [Monad m] [LawfulMonad m] {α : Type} (c : Prop) [Decidable c] (x : m PUnit) (r : m α) :
    (if c then x >>= fun _ => r else r) = (if c then x else pure ⟨⟩) >>= fun _ => r := by
  split <;> simp only [pure_bind]

/-- `range(n)` is empty for `n ≤ 0`: the guard `if n > 0` in front of `for _ in range(n)` changes nothing -/
theorem forIn_range_toNat_guard {m : Type → Type} [Monad m] {β : Type} (c : Int) (b : β)
    (body : Nat → β → m (ForInStep β)) :
    (if c > 0 then forIn (List.range c.toNat) b body else pure b) = forIn (List.range c.toNat) b body := by
  split
  · rfl
  · next h => rw [Int.toNat_of_nonpos (Int.not_lt.mp h)]; rfl

/-- a closure variable that is assigned twice: the second `if` never sees the case of the first -/
theorem ite_ite_else {α} (c : Prop) [Decidable c] (a b d : α) : (if c then a else if c then b else d) = if c then a else d := by
  split <;> rfl

variable {σ α β : Type}

@[reducible] def runM (m : ExceptT Err (StateM σ) α) (s : σ) : Except Err α × σ := (ExceptT.run m).run s

/-- the rest `k` of a computation after a step that ended in `r`: an exception skips it, the state reached is kept.  A constant, not
a `match` in `runM_bind`: a monad's own `runX_bind` is then `runM_bind` as it stands (two `match`es are two matchers) -/
def thenRun (r : Except Err α × σ) (k : α → σ → Except Err β × σ) : Except Err β × σ :=
  match r with
  | (.ok a, s) => k a s
  | (.error e, s) => (.error e, s)

def catchRun (r : Except Err α × σ) (h : Err → σ → Except Err α × σ) : Except Err α × σ :=
  match r with
  | (.ok a, s) => (.ok a, s)
  | (.error e, s) => h e s

@[run_simps] theorem thenRun_ok (a : α) (s : σ) (k : α → σ → Except Err β × σ) : thenRun (.ok a, s) k = k a s := rfl
@[run_simps] theorem thenRun_error (e : Err) (s : σ) (k : α → σ → Except Err β × σ) : thenRun (.error e, s) k = (.error e, s) := rfl
@[run_simps] theorem catchRun_ok (a : α) (s : σ) (h : Err → σ → Except Err α × σ) : catchRun (.ok a, s) h = (.ok a, s) := rfl
@[run_simps] theorem catchRun_error (e : Err) (s : σ) (h : Err → σ → Except Err α × σ) : catchRun (.error e, s) h = h e s := rfl

/-! what decides the tests the generated code makes on values of known shape, keeps the lists of what was emitted as literals, and
hands the value of a step that only computes to the rest of the block -/
attribute [run_simps] Option.isSome_none Option.isSome_some Option.isNone_none Option.isNone_some Option.getD_none Option.getD_some
  Option.map_none Option.map_some Bool.false_eq_true Bool.not_true Bool.not_false id_eq if_true if_false
  List.nil_append List.append_nil List.cons_append List.append_assoc List.map_cons List.map_nil pure_bind

@[run_simps] theorem runM_pure (a : α) (s : σ) : runM (pure a) s = (.ok a, s) := rfl

/-- `low`: a primitive's own lemma `run (p >>= f) s = …` goes first -/
@[run_simps low] theorem runM_bind (m : ExceptT Err (StateM σ) α) (f : α → ExceptT Err (StateM σ) β) (s : σ) :
    runM (m >>= f) s = thenRun (runM m s) fun a s' => runM (f a) s' := by
  simp only [runM, ExceptT.run, bind, ExceptT.bind, ExceptT.mk, StateT.bind, StateT.run, ExceptT.bindCont]
  cases h : m s with
  | mk a s' => cases a <;> rfl

/-- a primitive `p` of a monad gets the lemma `run (p >>= f) s = run (f a) s'` from its `run p s = (.ok a, s')` -/
theorem runM_bind_ok {m : ExceptT Err (StateM σ) α} {a : α} {s s' : σ} (h : runM m s = (.ok a, s'))
    (f : α → ExceptT Err (StateM σ) β) : runM (m >>= f) s = runM (f a) s' := by
  rw [runM_bind, h, thenRun_ok]

@[run_simps] theorem runM_tryCatch (m : ExceptT Err (StateM σ) α) (h : Err → ExceptT Err (StateM σ) α) (s : σ) :
    runM (tryCatch m h) s = catchRun (runM m s) fun e s' => runM (h e) s' := by
  simp only [runM, ExceptT.run, tryCatch, tryCatchThe, MonadExceptOf.tryCatch, ExceptT.tryCatch, ExceptT.mk, bind, StateT.bind,
    StateT.run]
  cases h' : m s with
  | mk a s' => cases a <;> rfl

@[run_simps] theorem runM_get (s : σ) : runM (get : ExceptT Err (StateM σ) σ) s = (.ok s, s) := rfl
@[run_simps] theorem runM_set (s' s : σ) : runM (set s' : ExceptT Err (StateM σ) PUnit) s = (.ok ⟨⟩, s') := rfl
@[run_simps] theorem runM_modify (f : σ → σ) (s : σ) : runM (modify f : ExceptT Err (StateM σ) PUnit) s = (.ok ⟨⟩, f s) := rfl
@[run_simps] theorem runM_throw (e : Err) (s : σ) : runM (throw e : ExceptT Err (StateM σ) α) s = (.error e, s) := rfl
@[run_simps] theorem runM_lift (x : Except Err α) (s : σ) : runM (liftM x : ExceptT Err (StateM σ) α) s = (x, s) := by
  cases x <;> rfl

/-- `runM_bind_ok` for a step that either succeeds or raises, decided by a test on the state (a Python item assignment `l[i] = v`:
`IndexError` past the end) -/
theorem runM_bind_guard {m : ExceptT Err (StateM σ) α} {c : Prop} [Decidable c] {a : α} {e : Err} {s s' : σ}
    (h : runM m s = if c then (.ok a, s') else (.error e, s)) (f : α → ExceptT Err (StateM σ) β) :
    runM (m >>= f) s = if c then runM (f a) s' else (.error e, s) := by
  rw [runM_bind, h]
  split <;> rfl

@[run_simps] theorem runM_monadLift (x : Except Err α) (s : σ) :
    runM (MonadLift.monadLift x : ExceptT Err (StateM σ) α) s = (x, s) := runM_lift x s

/-! a pure operation of Python that does not raise is a step that only returns a value (then `pure_bind`), in both forms in which
do-notation writes the lift -/
@[run_simps] theorem liftM_ok (a : α) : (liftM (Except.ok a : Except Err α) : ExceptT Err (StateM σ) α) = pure a := rfl
@[run_simps] theorem monadLift_ok (a : α) :
    (MonadLift.monadLift (Except.ok a : Except Err α) : ExceptT Err (StateM σ) α) = pure a := rfl

/-! what the `do` notation makes of the normal end of a `try` body that assigns a `let mut` variable (`t`), that may leave by
`return`, or both; of the `return`; and (`EarlyReturn.runK`) of going on after the `try` -/
attribute [run_simps] EarlyReturn.runK
@[run_simps] theorem runM_pure_mut {τ : Type} (a : α) (t : τ) (s : σ) :
    runM ((pure a : StateT τ (ExceptT Err (StateM σ)) α) t) s = (.ok (a, t), s) := rfl
@[run_simps] theorem runM_run_pure {ρ : Type} (a : α) (s : σ) :
    runM (ExceptT.run (pure a : ExceptT ρ (ExceptT Err (StateM σ)) α)) s = (.ok (.ok a), s) := rfl
@[run_simps] theorem runM_run_pure_mut {ρ τ : Type} (a : α) (t : τ) (s : σ) :
    runM (ExceptT.run ((pure a : StateT τ (ExceptT ρ (ExceptT Err (StateM σ))) α) t)) s = (.ok (.ok (a, t)), s) := rfl
@[run_simps] theorem runM_return {ρ : Type} (r : ρ) (s : σ) :
    runM (EarlyReturnT.return r : EarlyReturnT ρ (ExceptT Err (StateM σ)) α) s = (.ok (.error r), s) := rfl

@[run_simps] theorem runM_ite (c : Prop) [Decidable c] (a b : ExceptT Err (StateM σ) α) (s : σ) :
    runM (if c then a else b) s = if c then runM a s else runM b s := by split <;> rfl

/-- a `for a in l` loop no pass of which breaks or raises; `S p`, `B p`: the state and the loop variables that the prefix `p` of `l`
has led to -/
theorem runM_forIn {γ : Type} (l : List γ) (body : γ → β → ExceptT Err (StateM σ) (ForInStep β)) (B : List γ → β) (S : List γ → σ)
    {b : β} {s : σ} (hb : B [] = b) (hs : S [] = s)
    (hbody : ∀ p a r, l = p ++ a :: r → runM (body a (B p)) (S p) = (.ok (.yield (B (p ++ [a]))), S (p ++ [a]))) :
    runM (forIn l b body) s = (.ok (B l), S l) := by
  subst hb hs
  suffices h : ∀ r p, l = p ++ r → runM (forIn r (B p) body) (S p) = (.ok (B l), S l) from h l [] rfl
  intro r
  induction r with
  | nil => intro p hp; rw [hp, List.append_nil]; rfl
  | cons a r ih =>
    intro p hp
    rw [List.forIn_cons, runM_bind_ok (hbody p a r hp)]
    exact ih (p ++ [a]) (by rw [hp, List.append_assoc, List.singleton_append])

end Rx
