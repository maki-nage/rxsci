import RxModel.Lemmas.Roll
/-!
# The flush of `roll` at key completion: the partial windows, in opening order

After `n` items the open windows are `c ≤ j < J` with `c` = number of full windows and
`J = ⌈n/s⌉`; window `j` lives in ring slot `j % d`.  The flush walks the ring from slot `J % d`:
it passes the slots of `J, …, c+d-1`, which are empty, and then those of `c, …, J-1`, so the windows are
closed in increasing `j`, i.e. in the order they were opened.
-/
namespace Rx

theorem lsFlush_eq {α} (d first : Nat) (ws : Slots) :
    lsFlush (α := α) d first ws =
      (((List.range d).map fun o => (first + o) % d).filter fun off => (ws off).isSome).map Cmd.cls := by
  rw [lsFlush, ← List.filterMap_eq_filter, List.map_filterMap]
  congr 1
  funext off
  cases h : ws off <;> simp [Option.guard, h]

/-- the order of the walk, as residues of `d` consecutive numbers starting from `J` -/
theorem ring_order (d c J : Nat) (h1 : c ≤ J) (h2 : J ≤ c + d) :
    (List.range d).map (fun o => (J % d + o) % d) =
      (List.range' J (c + d - J)).map (· % d) ++ (List.range' c (J - c)).map (· % d) := by
  have hsplit : List.range' J d = List.range' J (c + d - J) ++ List.range' (c + d) (J - c) := by
    have := @List.range'_append_1 J (c + d - J) (J - c)
    rw [Nat.add_sub_cancel' h2, Nat.sub_add_sub_cancel h2 h1, Nat.add_sub_cancel_left] at this
    exact this.symm
  have hshift : (List.range' (c + d) (J - c)).map (· % d) = (List.range' c (J - c)).map (· % d) := by
    rw [Nat.add_comm c d, ← List.map_add_range', List.map_map]
    exact List.map_congr_left fun j _ => Nat.add_mod_left d j
  rw [← hshift, ← List.map_append, ← hsplit, List.range'_eq_map_range, List.map_map]
  exact List.map_congr_left fun o _ => Nat.mod_add_mod J d o

/-- `(n + s - 1) / s` is `⌈n/s⌉` -/
theorem lt_ceil_iff (n s j : Nat) (hs : 0 < s) : j * s < n ↔ j < (n + s - 1) / s := by
  rw [Nat.lt_div_iff_mul_lt hs, Nat.add_sub_assoc hs, Nat.add_sub_cancel]

/-- from `RInv`: the flush at key completion closes exactly the windows `c, …, J-1`, in that order -/
theorem ring_flush {α} (w s d : Nat) (hs : 0 < s) (hw : 0 < w) (hd0 : 0 < d) (hd : w ≤ d * s)
    (xs : List α) (st : Nat × Slots) (ob : Obs α) (c : Nat) (h : RInv w s d xs st ob c) :
    let J := (xs.length + s - 1) / s
    c ≤ J ∧ J - c ≤ d ∧
    (obsRun ⟨ob.opn, []⟩ (lsFlush d (J % d) st.2)).closed = (List.range' c (J - c)).map (fun j => xs.drop (j * s)) := by
  obtain ⟨n, sl⟩ := st
  obtain ⟨_, hsl, _, hopn, hcnt, _⟩ := h
  have hopn : ∀ o, ob.opn o = (sl o).map fun n0 => xs.drop n0 := hopn
  intro J
  have hJ : ∀ j, j * s < xs.length ↔ j < J := fun j => lt_ceil_iff xs.length s j hs
  have hopen : ∀ j, openAt w s xs.length j ↔ c ≤ j ∧ j < J := fun j =>
    and_comm.trans (and_congr (by rw [← Nat.not_le, ← hcnt j, Nat.not_lt]) (hJ j))
  have hcJ : c ≤ J := Nat.le_of_not_lt fun h =>
    Nat.lt_irrefl J ((hJ J).mp (Nat.lt_of_lt_of_le (Nat.lt_add_of_pos_right hw) ((hcnt J).mp h)))
  -- `d * s ≥ w` items after window `c` started it is complete: at most `d` windows are open
  have hJd : J ≤ c + d := Nat.le_of_not_lt fun h => by
    have h1 := ((hopen c).mpr ⟨Nat.le_refl c, Nat.lt_of_le_of_lt (Nat.le_add_right c d) h⟩).2
    have h2 := ((hopen (c + d)).mpr ⟨Nat.le_add_right c d, h⟩).1
    rw [Nat.add_mul] at h2
    omega
  -- what the slots of the `d` consecutive windows from `c` on hold
  have hslot : ∀ j, c ≤ j → j < c + d → sl (j % d) = if j < J then some (j * s) else none := by
    intro j h1 h2
    split
    · next h => exact (hsl _ (Nat.mod_lt _ hd0) _).mpr ⟨j, rfl, rfl, (hopen j).mpr ⟨h1, h⟩⟩
    · next h =>
      refine Option.eq_none_iff_forall_ne_some.mpr fun n0 h0 => ?_
      obtain ⟨j', _, hm, ho⟩ := (hsl _ (Nat.mod_lt _ hd0) n0).mp h0
      obtain ⟨h3, h4⟩ := (hopen j').mp ho
      -- `j'` and `j` lie in `[c, c+d)`
      exact h (mod_inj hm (Nat.lt_add_right d (Nat.lt_of_lt_of_le h4 (Nat.le_of_not_lt h)))
        (Nat.lt_of_lt_of_le h2 (Nat.add_le_add_right h3 d)) ▸ h4)
  have hfilter : (((List.range d).map fun o => (J % d + o) % d).filter fun off => (sl off).isSome) =
      (List.range' c (J - c)).map (· % d) := by
    rw [ring_order d c J hcJ hJd, List.filter_append, List.filter_eq_nil_iff.mpr, List.filter_eq_self.mpr,
      List.nil_append]
    · intro a ha
      obtain ⟨j, hj, rfl⟩ := List.mem_map.mp ha
      have := (mem_range'_sub hcJ).mp hj
      rw [hslot j this.1 (Nat.lt_of_lt_of_le this.2 hJd), if_pos this.2]; rfl
    · intro a ha
      obtain ⟨j, hj, rfl⟩ := List.mem_map.mp ha
      have := (mem_range'_sub hJd).mp hj
      rw [hslot j (Nat.le_trans hcJ this.1) this.2, if_neg (Nat.not_lt.mpr this.1)]; exact Bool.false_ne_true
  have hnd : ((List.range' c (J - c)).map (· % d)).Nodup := hfilter ▸ (ringOffs_nodup d (J % d)).filter _
  refine ⟨hcJ, Nat.sub_le_iff_le_add'.mpr hJd, ?_⟩
  show (obsRun ⟨ob.opn, []⟩ (lsFlush d (J % d) sl)).closed = _
  rw [lsFlush_eq, hfilter, obsRun_cls hnd, List.map_map]
  exact List.map_congr_left fun j hj => by
    have := (mem_range'_sub hcJ).mp hj
    show (ob.opn (j % d)).getD [] = _
    rw [hopn, hslot j this.1 (Nat.lt_of_lt_of_le this.2 hJd), if_pos this.2]; rfl

end Rx
