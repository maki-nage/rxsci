import RxModel.LSplit
import RxModel.Lemmas.Wrap
import RxModel.Lemmas.Split
/-!
# `SplitSim` for `group_by`

The implementation keeps, per parent slot, the insertion-ordered dict `map_key → index` whose
indices come from one global counter (`next_index` of the mapper store); the local description
numbers the groups of one parent lifetime 0, 1, 2, … in order of first appearance.  Group `j` of
parent `k` is named by the inner key `(m[j].index, k)`; freshness of a new name follows from all
indices in use being below the counter.
-/
namespace Rx

/-- the local map of a parent: same group keys, local ids `off, off+1, …` -/
abbrev relab {κ : Type} (off : Nat) (m : List (κ × Nat)) : List (κ × Nat) := (m.map (·.1)).zipIdx off

theorem relab_append {κ : Type} (m : List (κ × Nat)) (off : Nat) (g : κ) (i : Nat) :
    relab off (m ++ [(g, i)]) = relab off m ++ [(g, off + m.length)] := by
  rw [relab, List.map_append, List.zipIdx_append, List.length_map]; rfl

/-- lookup in the renumbered map follows lookup in the dict: a miss is a miss, a hit at position `j` gives the local
id `off + j`, and the dict's entry at `j` carries the global index found -/
theorem relab_lookup {κ : Type} [DecidableEq κ] (g : κ) (m : List (κ × Nat)) (off : Nat) :
    (gbLookup m g = none → gbLookup (relab off m) g = none) ∧
    ∀ i, gbLookup m g = some i → ∃ j p, gbLookup (relab off m) g = some (off + j) ∧ m[j]? = some p ∧ p.2 = i := by
  induction m generalizing off with
  | nil => exact ⟨fun _ => rfl, nofun⟩
  | cons p r ih =>
    rw [relab, List.map_cons, List.zipIdx_cons, gbLookup_cons, gbLookup_cons]
    by_cases hp : p.1 = g
    · rw [if_pos hp, if_pos hp]
      exact ⟨nofun, fun i h => ⟨0, p, rfl, rfl, Option.some.inj h⟩⟩
    · rw [if_neg hp, if_neg hp]
      refine ⟨(ih (off + 1)).1, fun i h => ?_⟩
      obtain ⟨j, q, h1, h2, h3⟩ := (ih (off + 1)).2 i h
      exact ⟨j + 1, q, h1.trans (congrArg some (by omega)), h2, h3⟩

/-- row `k` of the naming: group `j` of parent `k` is named by the global index the dict holds at position `j` -/
def gbNm {κ : Type} (k : Key) (m : List (κ × Nat)) : Nat → Option Key := fun j => (m[j]?).map (fun p => p.2 :: k)

/-- slot `k[0]` holds the dict `m` of parent `k`; the local state is `m` renumbered, group `j` is
named by its global index, and every index in use is below the counter -/
def GbP {κ : Type} (k : Key) (s : GbSt κ) (t : List (κ × Nat)) (r : Nat → Option Key) : Prop :=
  ∃ m, s.maps k.idx = some m ∧ t = relab 0 m ∧ r = gbNm k m ∧ ∀ p ∈ m, p.2 < s.next

theorem GbP.frame {κ : Type} {k : Key} {s : GbSt κ} (v : Option (List (κ × Nat))) {n' : Nat} (hn : s.next ≤ n') :
    PerKey.Frame GbP k s ⟨upd s.maps k.idx v, n'⟩ :=
  fun _ hidx _ _ ⟨m, h1, h2, h3, h4⟩ =>
    ⟨m, (upd_of_ne _ hidx _).trans h1, h2, h3, fun p hp => Nat.lt_of_lt_of_le (h4 p hp) hn⟩

theorem gbNm_append {κ : Type} (k : Key) (m : List (κ × Nat)) (p : κ × Nat) :
    gbNm k (m ++ [p]) = upd (gbNm k m) m.length (some (p.2 :: k)) := by
  funext j
  simp only [gbNm, upd, getElem?_snoc, apply_ite (Option.map _), Option.map_some]

/-- closing all groups of a parent in first-appearance order: the first `off` are closed already -/
theorem gb_close {α κ : Type} (k : Key) (rest : List (κ × Nat)) (off : Nat) (nm : Naming)
    (h1 : ∀ j, j < off → nm k j = none) (h2 : ∀ i, nm k (off + i) = gbNm k rest i) :
    ∃ nm', Tr (α := α) k nm ((relab off rest).map (fun p => Cmd.cls p.2)) (rest.map fun p => Ev.done (p.2 :: k)) nm' ∧
      ∀ j, nm' k j = none := by
  induction rest generalizing off nm with
  | nil =>
    refine ⟨nm, .nil _, fun j => ?_⟩
    rcases Nat.lt_or_ge j off with hj | hj
    · exact h1 j hj
    · rw [← Nat.add_sub_cancel' hj, h2]; rfl
  | cons p r ih =>
    obtain ⟨nm', t1, t2⟩ := ih (off + 1) (updNm nm k off none)
      (fun j hj => by
        rw [updNm_row]; unfold upd; split
        · rfl
        · exact h1 j (by omega))
      (fun i => by rw [updNm_row, upd_of_ne _ (by omega), Nat.add_right_comm, Nat.add_assoc, h2]; rfl)
    exact ⟨nm', .cls nm off (p.2 :: k) _ _ nm' (h2 0) t1, t2⟩

def groupBySim {α κ : Type} [DecidableEq κ] (f : α → κ) : SplitSim (groupBySp f) (groupByLS f) where
  Inv := PerKey GbP
  init := .init
  dead := PerKey.dead
  fatal := fun _ _ => rfl
  create := by
    intro live s T nm k hinv _ _ hany
    exact ⟨rfl, hinv.create (any_idx_eq_false.mp hany) (GbP.frame _ (Nat.le_refl _))
      ⟨[], upd_same .., rfl, rfl, nofun⟩⟩
  next := by
    intro live s T nm k x hinv hd hok hk
    obtain ⟨t, g2, m, g1, rfl, g3, g4⟩ := hinv.live_ k hk
    refine ⟨relab 0 m, g2, ?_⟩
    cases hl : gbLookup m (f x) with
    -- known group: one `itm` under the name it has; nothing else moves
    | some i =>
      obtain ⟨j, p, h1, h2, h3⟩ := (relab_lookup (f x) m 0).2 i hl
      rw [Nat.zero_add] at h1
      have htr : Tr k nm [.itm j x] [.next (i :: k) x] nm :=
        .itm nm j (i :: k) x _ _ nm (by rw [g3, gbNm, h2, ← h3]; rfl) (.nil _)
      simp only [groupByLS, gbNext, h1, groupBySp, gbStep, g1, hl]
      exact ⟨nm, htr, trivial, hinv.next hd hk htr (fun _ _ _ _ h => h) ⟨m, g1, rfl, g3, g4⟩⟩
    -- new group: local id `m.length` is opened under the counter value `s.next`, above every index in use
    | none =>
      have hlk := (relab_lookup (f x) m 0).1 hl
      have hfresh : ∀ k2 j2 b, nm k2 j2 = some b → b.idx ≠ Key.idx (s.next :: k) := by
        intro k2 j2 b hb
        obtain ⟨_, _, m2, _, _, f3, f4⟩ := hinv.live_ k2 (hinv.live_of_name hb)
        rw [f3] at hb
        simp only [gbNm, Option.map_eq_some_iff] at hb
        obtain ⟨p, hp1, rfl⟩ := hb
        exact Nat.ne_of_lt (f4 p (List.mem_of_getElem? hp1))
      have htr : Tr k nm [.opn m.length, .itm m.length x] [.create (s.next :: k), .next (s.next :: k) x]
          (updNm nm k m.length (some (s.next :: k))) :=
        .opn nm m.length (s.next :: k) _ _ _ (by rw [g3, gbNm, List.getElem?_eq_none (Nat.le_refl _)]; rfl) hfresh
          ⟨s.next, rfl⟩ (.itm _ m.length (s.next :: k) x _ _ _ (updNm_same ..) (.nil _))
      simp only [groupByLS, gbNext, hlk, List.length_zipIdx, List.length_map, groupBySp, gbStep, g1, hl]
      refine ⟨_, htr, trivial, hinv.next hd hk htr (GbP.frame _ (Nat.le_succ _))
        ⟨m ++ [(f x, s.next)], upd_same .., by rw [relab_append, Nat.zero_add], ?_, ?_⟩⟩
      · rw [updNm_row, g3, gbNm_append]
      · intro p hp
        rcases List.mem_append.mp hp with hp | hp
        · exact Nat.lt_succ_of_lt (g4 p hp)
        · rw [List.mem_singleton.mp hp]; exact Nat.lt_succ_self _
  done := by
    intro live s T nm k hinv hd _ hk
    obtain ⟨t, g2, m, g1, rfl, g3, g4⟩ := hinv.live_ k hk
    obtain ⟨nm', t1, t2⟩ := gb_close (α := α) k m 0 nm nofun
      (fun i => by rw [Nat.zero_add, g3])
    refine ⟨relab 0 m, g2, nm', ?_⟩
    simp only [groupByLS, gbFin, groupBySp, gbStep, g1]
    exact ⟨t1, trivial, hinv.done hd hk t1 (GbP.frame _ (Nat.le_refl _)) t2⟩

end Rx
