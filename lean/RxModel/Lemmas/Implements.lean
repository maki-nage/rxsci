import RxModel.Lemmas.Lift
/-!
# What it means that a mux operator implements a local one (`Implements`, `Impl`), and on which traces

`Impl true` restricts the claim to clean traces (`CleanTr`), which is what the steps for splitters
and `tee_map` can show.  The keyed reference lift of a clean operator (`CleanOp`) maps clean traces
to clean traces (`clean_ref`), so the restriction survives composition; `CleanOp` itself is closed under
composition and `localWrap` (`clean_comp`, `clean_wrap`), and under `localTee` (`clean_tee` in Lemmas/Nested.lean,
from `feedLJoin_clean` here).  Lemmas/Impl.lean holds `impl_eq_ref` for flat pipelines, not the definition of `Impl`.
-/
namespace Rx

def Ev.isErr {α} : Ev α → Bool
  | .err _ _ => true
  | _ => false

def NoErr {α} (t : List (Ev α)) : Prop := ∀ e ∈ t, e.isErr = false

theorem noErr_nil {α} : NoErr ([] : List (Ev α)) := fun _ h => nomatch h

theorem noErr_cons {α} {e : Ev α} {t : List (Ev α)} : NoErr (e :: t) ↔ e.isErr = false ∧ NoErr t :=
  List.forall_mem_cons

theorem noErr_append {α} {a b : List (Ev α)} : NoErr (a ++ b) ↔ NoErr a ∧ NoErr b :=
  List.forall_mem_append

def Ev.isFatal {α} : Ev α → Bool
  | .fatal _ => true
  | _ => false

def NoFatal {α} (t : List (Ev α)) : Prop := ∀ e ∈ t, e.isFatal = false

theorem noFatal_nil {α} : NoFatal ([] : List (Ev α)) := fun _ h => nomatch h

theorem noFatal_cons {α} {e : Ev α} {t : List (Ev α)} : NoFatal (e :: t) ↔ e.isFatal = false ∧ NoFatal t :=
  List.forall_mem_cons

theorem noFatal_append {α} {a b : List (Ev α)} : NoFatal (a ++ b) ↔ NoFatal a ∧ NoFatal b :=
  List.forall_mem_append

/-- a clean trace carries neither `OnErrorMux` events nor `on_error` -/
def CleanTr {α} (t : List (Ev α)) : Prop := NoErr t ∧ NoFatal t

theorem cleanTr_nil {α} : CleanTr ([] : List (Ev α)) := ⟨noErr_nil, noFatal_nil⟩

theorem cleanTr_cons {α} {e : Ev α} {t : List (Ev α)} :
    CleanTr (e :: t) ↔ (e.isErr = false ∧ e.isFatal = false) ∧ CleanTr t := by
  rw [CleanTr, noErr_cons, noFatal_cons, and_and_and_comm]; rfl

theorem cleanTr_singleton {α} {e : Ev α} (he : e.isErr = false) (hf : e.isFatal = false) : CleanTr [e] :=
  cleanTr_cons.mpr ⟨⟨he, hf⟩, cleanTr_nil⟩

theorem cleanTr_append {α} {a b : List (Ev α)} (ha : CleanTr a) (hb : CleanTr b) : CleanTr (a ++ b) :=
  ⟨noErr_append.mpr ⟨ha.1, hb.1⟩, noFatal_append.mpr ⟨ha.2, hb.2⟩⟩

theorem cleanTr_map_next {α} (k : Key) (xs : List α) : CleanTr (xs.map (Ev.next k)) :=
  ⟨List.forall_mem_map.mpr fun _ _ => rfl, List.forall_mem_map.mpr fun _ _ => rfl⟩

theorem lifetime_clean {α} (k : Key) (xs : List α) : CleanTr ([Ev.create k] ++ xs.map (Ev.next k) ++ [Ev.done k]) :=
  cleanTr_append (cleanTr_append (cleanTr_singleton rfl rfl) (cleanTr_map_next k xs)) (cleanTr_singleton rfl rfl)

def LOut.isItem {β} : LOut β → Bool
  | .item _ => true
  | _ => false

theorem eq_map_items {β} {l : List (LOut β)} (h : ∀ o ∈ l, o.isItem = true) : l = (items l).map .item := by
  induction l with
  | nil => rfl
  | cons o l ih =>
    have ho := h o List.mem_cons_self
    cases o with
    | item b => exact congrArg (_ :: ·) (ih fun o' ho' => h o' (List.mem_cons_of_mem _ ho'))
    | err e => cases ho
    | fatal e => cases ho

/-- the operator never emits an `OnErrorMux` or an `on_error` when it is fed items only -/
structure CleanOp {α β} (L : LocalOp α β) : Prop where
  next : ∀ s x, ∀ o ∈ (L.next s x).2, o.isItem = true
  fin : ∀ s, ∀ o ∈ L.fin s, o.isItem = true

/-- cleanness as a check on the output lists: on a concrete operator it is decided by inspection -/
theorem cleanOp_of_all {α β} {L : LocalOp α β} (hn : ∀ s x, (L.next s x).2.all LOut.isItem = true)
    (hf : ∀ s, (L.fin s).all LOut.isItem = true) : CleanOp L :=
  ⟨fun s x => List.all_eq_true.mp (hn s x), fun s => List.all_eq_true.mp (hf s)⟩

theorem cleanTr_outs {β} (k : Key) {os : List (LOut β)} (h : ∀ o ∈ os, o.isItem = true) :
    CleanTr (os.map (liftOut k)) := by
  rw [eq_map_items h, List.map_map]
  exact cleanTr_map_next k (items os)

theorem clean_ref {α β} (L : LocalOp α β) (hL : CleanOp L) :
    ∀ (t : List (Ev α)) (st : Key → Option L.σ), CleanTr t → CleanTr (runSteps (refStep L) st t).flatten := by
  intro t
  induction t with
  | nil => intro st _; exact cleanTr_nil
  | cons e t ih =>
    intro st hc
    obtain ⟨⟨he, hf⟩, hc⟩ := cleanTr_cons.mp hc
    simp only [runSteps, List.flatten_cons]
    refine cleanTr_append ?_ (ih _ hc)
    cases e with
    | create k => exact cleanTr_singleton rfl rfl
    | next k x =>
      simp only [refStep]
      cases st k with
      | none => exact cleanTr_nil
      | some s => exact cleanTr_outs k (hL.next s x)
    | done k =>
      simp only [refStep]
      cases st k with
      | none => exact cleanTr_singleton rfl rfl
      | some s => exact cleanTr_append (cleanTr_outs k (hL.fin s)) (cleanTr_singleton rfl rfl)
    | err k x => cases he
    | fatal x => cases hf

theorem feedL_clean {β γ} {L : LocalOp β γ} (hL : CleanOp L) {os : List (LOut β)} {s : L.σ}
    (h : ∀ o ∈ os, o.isItem = true) : ∀ o ∈ (feedL L s os).2, o.isItem = true := by
  rw [eq_map_items h]
  generalize items os = xs
  induction xs generalizing s with
  | nil => exact fun _ ho => nomatch ho
  | cons x xs ih => exact List.forall_mem_append.mpr ⟨hL.next s x, ih⟩

theorem clean_comp {α β γ} (L1 : LocalOp α β) (L2 : LocalOp β γ) (h1 : CleanOp L1) (h2 : CleanOp L2) :
    CleanOp (compLocal L1 L2) :=
  ⟨fun s x => feedL_clean h2 (h1.next s.1 x),
   fun s => List.forall_mem_append.mpr ⟨feedL_clean h2 (h1.fin s.1), h2.fin _⟩⟩

theorem clean_id {α} : CleanOp (idLocal (α := α)) :=
  ⟨fun _ _ => List.forall_mem_cons.mpr ⟨rfl, fun _ h => nomatch h⟩, fun _ _ h => nomatch h⟩

theorem cmd_clean {α β} {L : LocalOp α β} (hL : CleanOp L) :
    ∀ {cs : List (Cmd α)} {st : Nat → Option L.σ}, ∀ o ∈ (runGroup (cmdStep L) st cs).2, o.isItem = true := by
  intro cs
  induction cs with
  | nil => intro st o ho; cases ho
  | cons c cs ih =>
    intro st
    refine List.forall_mem_append.mpr ⟨?_, ih⟩
    cases c with
    | opn j => exact fun _ h => nomatch h
    | itm j x =>
      cases hs : st j with
      | none => rw [cmdStep_itm_none L hs]; exact fun _ h => nomatch h
      | some s => rw [cmdStep_itm_some L hs]; exact hL.next s x
    | cls j =>
      cases hs : st j with
      | none => rw [cmdStep_cls_none L hs]; exact fun _ h => nomatch h
      | some s => rw [cmdStep_cls_some L hs]; exact hL.fin s

theorem demuxL_clean {β} {os : List (LOut β)} (h : ∀ o ∈ os, o.isItem = true) :
    ∀ o ∈ os.map demuxL, o.isItem = true :=
  List.forall_mem_map.mpr fun o ho => by cases o <;> first | rfl | cases h _ ho

theorem clean_wrap {α β} (ls : LSplit α) (L : LocalOp α β) (hL : CleanOp L) : CleanOp (localWrap ls L) :=
  ⟨fun _ _ => demuxL_clean (cmd_clean hL), fun _ => demuxL_clean (cmd_clean hL)⟩

theorem feedLJoin_clean {β γ} (mode : Join) (mk : List (Option β) → γ) (inj : β → γ) (i : Nat) {os : List (LOut β)}
    {st : LJoinSt β} (h : ∀ o ∈ os, o.isItem = true) : ∀ o ∈ (feedLJoin mode mk inj i st os).2, o.isItem = true := by
  rw [eq_map_items h]
  generalize items os = xs
  induction xs generalizing st with
  | nil => exact fun _ ho => nomatch ho
  | cons x xs ih =>
    refine List.forall_mem_append.mpr ⟨?_, ih⟩
    cases mode with
    | merge | combine => exact List.forall_mem_singleton.mpr rfl
    | zip =>
      simp only [lJoinNext]
      split
      · exact List.forall_mem_singleton.mpr rfl
      · exact fun _ h => nomatch h

/-- a mux operator implements a local operator: on every well-formed trace it emits, event by
event, what the keyed reference lift of the local operator emits.  This is `Impl false` (`impl_of_implements`,
`implements_of_impl`), under the name the theorems about flat pipelines are stated with. -/
def Implements {α β} (Q : MuxOp α β) (L : LocalOp α β) : Prop :=
  ∀ t, WF t → Q.run t = (refLift L).run t

/-- `Impl c Q L`: `Q` emits, event by event, what the keyed reference lift of `L` emits, on every
well-formed trace (`c = false`) or on every clean well-formed trace (`c = true`) -/
def Impl {α β} (c : Bool) (Q : MuxOp α β) (L : LocalOp α β) : Prop :=
  ∀ t, WF t → (c = true → CleanTr t) → Q.run t = (refLift L).run t

theorem impl_of_implements {α β} {Q : MuxOp α β} {L : LocalOp α β} (h : Implements Q L) (c : Bool) : Impl c Q L :=
  fun t ht _ => h t ht

theorem implements_of_impl {α β} {Q : MuxOp α β} {L : LocalOp α β} (h : Impl false Q L) : Implements Q L :=
  fun t ht => h t ht (fun h => nomatch h)

theorem impl_weaken {α β} {Q : MuxOp α β} {L : LocalOp α β} {c : Bool} (h : Impl c Q L) : Impl true Q L :=
  fun t ht hn => h t ht (fun _ => hn rfl)

theorem lift_implements {α β} (L : LocalOp α β) : Implements (idxLift L) L :=
  fun t ht => lift_eq L t ht

end Rx
