import RxModel.Lemmas.PlainSim
/-!
# Step simulations between the plain and the keyed implementation of each dual-mode primitive

One `PrimSim` per operator that rxsci implements twice (a `*_mux` handler over the store and an
RxPY / plain implementation).  A raising user function is `on_error` on the plain path and an
`OnErrorMux` on the keyed path: the plain run then delivered a prefix of what the keyed run delivers.
In every step below the two chunks carry the same items (`AgreesOut.of_items`); they differ in the
kind of error only.
-/
namespace Rx

theorem silent_of_fixed {α β} (L : LocalOp α β) (c : L.σ)
    (hn : ∀ x, (L.next c x).1 = c ∧ items (L.next c x).2 = [])
    (he : ∀ e, (L.onErr c e).1 = c ∧ items (L.onErr c e).2 = [])
    (hf : items (L.fin c) = []) : Silent L c := by
  intro os
  induction os with
  | nil => exact hf
  | cons o os ih =>
    cases o with
    | item x => rw [fed_item, items_append, (hn x).1, (hn x).2, ih]; rfl
    | err e => rw [fed_err, items_append, (he e).1, (he e).2, ih]; rfl
    | fatal e => exact ih

def mapSim {α β} (f : α → Except Err β) : PrimSim (pMap f) (mapOp f) where
  R := fun _ _ => True
  start := .inl ⟨rfl, trivial⟩
  step := by
    intro sp sl x _
    dsimp only [pMap, mapOp]
    cases f x <;> exact ⟨.of_items rfl, fun _ => trivial⟩
  err := fun _ _ _ h => ⟨rfl, h⟩
  fin := fun _ _ _ => .of_items rfl

def filterSim {α γ} (p : α → Except Err γ) (tr : γ → Bool) : PrimSim (pFilter p tr) (filterOp p tr) where
  R := fun _ _ => True
  start := .inl ⟨rfl, trivial⟩
  step := by
    intro sp sl x _
    dsimp only [pFilter, filterOp]
    cases p x with
    | error e => exact ⟨.of_items rfl, fun _ => trivial⟩
    | ok r => cases tr r <;> exact ⟨.of_items rfl, fun _ => trivial⟩
  err := fun _ _ _ h => ⟨rfl, h⟩
  fin := fun _ _ _ => .of_items rfl

def flatMapSim {α β} (el : α → List β) : PrimSim (pFlatMap el) (flatMapOp el) where
  R := fun _ _ => True
  start := .inl ⟨rfl, trivial⟩
  step := fun _ _ _ _ => ⟨.of_items rfl, fun _ => trivial⟩
  err := fun _ _ _ h => ⟨rfl, h⟩
  fin := fun _ _ _ => .of_items rfl

def assertSim {α} (p : α → Except Err Bool) (en : Err) : PrimSim (pAssert p en) (assertOp p en) where
  R := fun _ _ => True
  start := .inl ⟨rfl, trivial⟩
  step := fun _ _ _ _ => ⟨.of_items rfl, fun _ => trivial⟩
  err := fun _ _ _ h => ⟨rfl, h⟩
  fin := fun _ _ _ => .of_items rfl

def idSim {α} : PrimSim (idPlain (α := α)) idLocal where
  R := fun _ _ => True
  start := .inl ⟨rfl, trivial⟩
  step := fun _ _ _ _ => ⟨.of_items rfl, fun _ => trivial⟩
  err := fun _ _ _ h => ⟨rfl, h⟩
  fin := fun _ _ _ => .of_items rfl

theorem hasFatal_scanFin {γ} (seed : γ) (r : Bool) (term : Option (γ → γ)) (s : Option γ) :
    hasFatal (scanFin seed r term s) = false := by
  unfold scanFin
  cases term <;> cases r <;> rfl

def scanSim {α γ} (g : γ → α → Except Err γ) (seed : γ) (r : Bool) (term : Option (γ → γ)) :
    PrimSim (pScan g seed r term) (scanOp g seed r term) where
  R := fun (sp : Option γ) (sl : Option γ) => sp = sl
  start := .inl ⟨rfl, rfl⟩
  step := by
    intro (sp : Option γ) (sl : Option γ) x h
    subst h
    cases hg : g (sp.getD seed) x <;> simp only [pScan, scanOp, scanNext, hg] <;>
      exact ⟨.of_items rfl, fun _ => trivial⟩
  err := fun _ _ _ h => ⟨rfl, h⟩
  fin := fun _ _ h => h ▸ .of_items rfl

def lastSim {α} : PrimSim (pLast (α := α)) lastOp where
  R := fun (sp : Option α) (sl : Option α) => sp = sl
  start := .inl ⟨rfl, rfl⟩
  step := fun _ _ _ _ => ⟨.of_items rfl, fun _ => rfl⟩
  err := fun _ _ _ h => ⟨rfl, h⟩
  fin := by
    intro (sp : Option α) (sl : Option α) h
    subst h
    cases sp <;> exact .of_items rfl

def assert1Sim {α} (p : α → α → Bool) (en : Err) : PrimSim (pAssert1 p en) (assert1Op p en) where
  R := fun (sp : Option α) (sl : Option α) => sp = sl
  start := .inl ⟨rfl, rfl⟩
  step := fun _ _ _ h => h ▸ ⟨.of_items rfl, fun _ => rfl⟩
  err := fun _ _ _ h => ⟨rfl, h⟩
  fin := fun _ _ _ => .of_items rfl

theorem silent_first {α} : Silent (firstOp (α := α)) true :=
  silent_of_fixed firstOp true (fun _ => ⟨rfl, rfl⟩) (fun _ => ⟨rfl, rfl⟩) rfl

def firstSim {α} : PrimSim (pFirst (α := α)) firstOp where
  R := fun _ (sl : Bool) => sl = false
  start := .inl ⟨rfl, rfl⟩
  step := by
    intro sp (sl : Bool) x h
    subst h
    exact ⟨.of_items rfl, fun _ => silent_first⟩
  err := fun _ _ _ h => ⟨rfl, h⟩
  fin := fun _ _ _ => .of_items rfl

theorem silent_take {α} (n : Nat) : Silent (takeOp (α := α) n) (0 : Nat) :=
  silent_of_fixed (takeOp n) (0 : Nat) (fun _ => ⟨rfl, rfl⟩) (fun _ => ⟨rfl, rfl⟩) rfl

def takeSim {α} (n : Nat) : PrimSim (pTake (α := α) n) (takeOp n) where
  R := fun (sp : Nat) (sl : Nat) => sp = sl ∧ 1 ≤ sp
  start := by
    cases n with
    | zero => exact .inr ⟨rfl, silent_take 0⟩
    | succ k => exact .inl ⟨rfl, rfl, Nat.succ_le_succ (Nat.zero_le k)⟩
  step := by
    intro (sp : Nat) (sl : Nat) x ⟨e, h1⟩
    subst e
    -- the countdown is at 1: this item is the last one; or it goes on
    match sp, h1 with
    | 1, _ => exact ⟨.of_items rfl, fun _ => silent_take n⟩
    | k + 2, _ => exact ⟨.of_items rfl, fun _ => ⟨rfl, Nat.succ_le_succ (Nat.zero_le k)⟩⟩
  err := fun _ _ _ h => ⟨rfl, h⟩
  fin := fun _ _ _ => .of_items rfl

end Rx
