import RxModel.Lemmas.Wrap
import RxModel.Lemmas.Split
import RxModel.Lemmas.Obs
/-!
# `SplitSim` for the sequential splitters (`split`, `time_split`, tumbling `roll`)

The three sequential splitters keep, per parent slot, exactly the state of their local description,
use the single local id 0, and name the open inner lifetime of parent `k` by `ik k = (k[0], k)`.
The generic lemma `seqSim` turns that shape into a `SplitSim`, given that the commands of the local
description alternate between open and close (`LSplit.Seq`, Lemmas/Obs.lean); each splitter then only
has to show that its `on_next` handler is `seqOut` of its local description: the two `if` trees have
the same conditions and agree leaf by leaf, by computation (`ite_eq_apply`).
-/
namespace Rx

/-- the inner event a command over the single local id 0 of parent `k` stands for, under the name `ik k` -/
def fixEv {α} (k : Key) : Cmd α → Ev α
  | .opn _ => .create (ik k)
  | .itm _ x => .next (ik k) x
  | .cls _ => .done (ik k)

/-- row `k` of the naming: id 0 is named `ik k` while the inner lifetime is open (`b`) -/
def seqNm (k : Key) (b : Bool) : Nat → Option Key := fun j => if j = 0 ∧ b = true then some (ik k) else none

theorem seqNm_false (k : Key) : seqNm k false = fun _ => none :=
  funext fun _ => if_neg fun h => nomatch h.2

theorem seqNm_upd (k : Key) (b b' : Bool) : upd (seqNm k b) 0 (seqNm k b' 0) = seqNm k b' := by
  funext j; by_cases hj : j = 0 <;> simp [upd, seqNm, hj]

/-- commands over id 0 that alternate between open and close (`seqEnd` accepts them) are translated by `fixEv`: row
`k` of the naming is `seqNm k b` before and `seqNm k b'` after.  The last hypothesis (`SeqP.fresh`): the names of the
other parents have other slot indices than `ik k`. -/
theorem seq_tr {α} {k : Key} {b b' : Bool} {acc acc' : List α} {cmds : List (Cmd α)}
    (h : seqEnd b acc cmds = some (b', acc')) :
    ∀ (nm : Naming), nm k = seqNm k b → (∀ k2 j2 c, nm k2 j2 = some c → k2 ≠ k → c.idx ≠ k.idx) →
      ∃ nm', Tr k nm cmds (cmds.map (fixEv k)) nm' ∧ nm' k = seqNm k b' := by
  fun_induction seqEnd b acc cmds with
  | case1 b acc => intro nm h1 _; cases h; exact ⟨nm, .nil _, h1⟩
  | case2 acc cs ih =>
    intro nm h1 h2
    obtain ⟨nm', t1, t2⟩ := ih h (updNm nm k 0 (some (ik k))) (by rw [updNm_row, h1]; exact seqNm_upd k false true)
      (fun k2 j2 c hc hk => h2 k2 j2 c (by rwa [updNm_other hk 0 _] at hc) hk)
    refine ⟨nm', .opn nm 0 (ik k) _ _ nm' (by rw [h1]; rfl) ?_ ⟨k.idx, rfl⟩ t1, t2⟩
    intro k2 j2 c hc
    by_cases hk : k2 = k
    · subst hk; rw [h1, seqNm_false] at hc; cases hc
    · exact h2 k2 j2 c hc hk
  | case3 acc x cs ih =>
    intro nm h1 h2
    obtain ⟨nm', t1, t2⟩ := ih h nm h1 h2
    exact ⟨nm', .itm nm 0 (ik k) x _ _ nm' (by rw [h1]; rfl) t1, t2⟩
  | case4 acc cs ih =>
    intro nm h1 h2
    obtain ⟨nm', t1, t2⟩ := ih h (updNm nm k 0 none) (by rw [updNm_row, h1]; exact seqNm_upd k true false)
      (fun k2 j2 c hc hk => h2 k2 j2 c (by rwa [updNm_other hk 0 _] at hc) hk)
    exact ⟨nm', .cls nm 0 (ik k) _ _ nm' (by rw [h1]; rfl) t1, t2⟩
  | case5 => cases h

/-- slot `k[0]` holds the local state of parent `k`, whose inner lifetime is named `ik k` while open -/
def SeqP {τ : Type} (isOpen : τ → Bool) (k : Key) (s : Nat → Option τ) (t : τ) (r : Nat → Option Key) : Prop :=
  s k.idx = some t ∧ r = seqNm k (isOpen t)

theorem SeqP.frame {τ : Type} {isOpen : τ → Bool} {k : Key} {s : Nat → Option τ} (v : Option τ) :
    PerKey.Frame (SeqP isOpen) k s (upd s k.idx v) :=
  fun _ hidx _ _ h => ⟨(upd_of_ne _ hidx _).trans h.1, h.2⟩

theorem SeqP.fresh {τ : Type} {isOpen : τ → Bool} {live : List Key} {s : Nat → Option τ} {T : Key → Option τ}
    {nm : Naming} (h : PerKey (SeqP isOpen) live s T nm) (hd : IdxDistinct live) (k : Key) (hk : k ∈ live) :
    ∀ k2 j2 c, nm k2 j2 = some c → k2 ≠ k → c.idx ≠ k.idx := by
  intro k2 j2 c hc hne
  have hk2 := h.live_of_name hc
  obtain ⟨t, _, _, h3⟩ := h.live_ k2 hk2
  rw [h3] at hc
  rw [← Option.some.inj (Option.ite_none_right_eq_some.mp hc).2, ik_idx]
  exact hd.idx_ne hk2 hk hne

/-- what a sequential splitter does with an item, given what its local description `r` does -/
def seqOut {α τ : Type} (s : Nat → Option τ) (k : Key) (r : τ × List (Cmd α)) :
    (Nat → Option τ) × List (Ev α) × List OEv :=
  (upd s k.idx (some r.1), r.2.map (fixEv k), [])

theorem ite_eq_apply {β γ} {c : Prop} [Decidable c] (f : β → γ) {a b : γ} {a' b' : β} (h1 : a = f a') (h2 : b = f b') :
    (if c then a else b) = f (if c then a' else b') := by
  split <;> assumption

def seqSim {α} {ls : LSplit α} {isOpen : ls.τ → Bool} (sq : ls.Seq isOpen)
    (step : (Nat → Option ls.τ) → Ev α → (Nat → Option ls.τ) × List (Ev α) × List OEv)
    (hcreate : ∀ s k, step s (.create k) = (upd s k.idx (some ls.init), [], [.create k]))
    (hnext : ∀ s k x t, s k.idx = some t → step s (.next k x) = seqOut s k (ls.next t x))
    -- `split` has no del_key and leaves the slot as it is at a completion (`v = some t`), the other two clear it
    (hdone : ∀ s k t, s k.idx = some t →
      (step s (.done k)).2 = ((ls.fin t).map (fixEv k), [.done k]) ∧ ∃ v, (step s (.done k)).1 = upd s k.idx v)
    (hfatal : ∀ s e, step s (.fatal e) = (s, [.fatal e], [])) :
    SplitSim ⟨Nat → Option ls.τ, fun _ => none, step⟩ ls where
  Inv := PerKey (SeqP isOpen)
  init := .init
  dead := PerKey.dead
  fatal := hfatal
  create := by
    intro live s T nm k hinv _ _ hany
    simp only [hcreate]
    exact ⟨trivial, hinv.create (any_idx_eq_false.mp hany) (SeqP.frame _)
      ⟨upd_same .., by rw [sq.init, seqNm_false]⟩⟩
  next := by
    intro live s T nm k x hinv hd _ hk
    obtain ⟨t, g2, g1, g3⟩ := hinv.live_ k hk
    obtain ⟨nm', t1, t2⟩ := seq_tr (sq.next t x []) nm g3 (SeqP.fresh hinv hd k hk)
    refine ⟨t, g2, nm', ?_⟩
    simp only [hnext s k x t g1]
    exact ⟨t1, rfl, hinv.next hd hk t1 (SeqP.frame _) ⟨upd_same .., t2⟩⟩
  done := by
    intro live s T nm k hinv hd _ hk
    obtain ⟨t, g2, g1, g3⟩ := hinv.live_ k hk
    obtain ⟨e1, v, e3⟩ := hdone s k t g1
    obtain ⟨nm', t1, t2⟩ := seq_tr (sq.fin_end t) nm g3 (SeqP.fresh hinv hd k hk)
    refine ⟨t, g2, nm', ?_⟩
    simp only [e1]
    exact ⟨t1, trivial, hinv.done hd hk t1 (e3 ▸ SeqP.frame v) (congrFun (t2.trans (seqNm_false k)))⟩

def splitSim {α κ} [DecidableEq κ] (p : α → κ) : SplitSim (splitSp p) (splitLS p) :=
  seqSim (splitLS_seq p) (splitStep p)
    (fun _ _ => rfl)
    (by
      intro (s : SpSt κ) k x t hs
      rw [splitStep, hs]
      cases t with
      | none => rfl
      -- where the slot is left alone it already holds `p x`
      | some c => exact ite_eq_apply _ rfl (Prod.ext (upd_eq_self hs).symm rfl))
    (by
      intro (s : SpSt κ) k (t : Option κ) hs
      rw [splitStep, hs]
      cases t <;> exact ⟨rfl, _, (upd_eq_self hs).symm⟩)
    (fun _ _ => rfl)

def rollCountSim {α} (w : Nat) : SplitSim (rollCountSp (α := α) w) (rollCountLS w) :=
  seqSim (rollCountLS_seq w) (rollCountStep w)
    (fun _ _ => rfl)
    (by
      intro (s : Nat → Option Nat) k x (c : Nat) hs
      -- leaf by leaf as for the other two, but `ite_eq_apply` is slower to check under the `let pre`
      simp only [rollCountStep, hs, rollCountLS, apply_ite (seqOut s k)]
      cases c <;> rfl)
    (by
      intro (s : Nat → Option Nat) k (c : Nat) hs
      rw [rollCountStep, hs]
      cases c <;> exact ⟨rfl, _, rfl⟩)
    (fun _ _ => rfl)

def timeSplitSim {α} (c : TsCfg α) : SplitSim (timeSplitSp c) (timeSplitLS c) :=
  seqSim (timeSplitLS_seq c) (tsStep c)
    (fun _ _ => rfl)
    (by
      intro (s : TsSt) k x (t : Option (Int × Int)) hs
      rw [tsStep, hs]
      cases t <;> exact ite_eq_apply _ rfl (ite_eq_apply _ (ite_eq_apply _ rfl rfl) rfl))
    (by
      intro (s : TsSt) k (t : Option (Int × Int)) hs
      rw [tsStep, hs]
      cases t <;> exact ⟨rfl, _, rfl⟩)
    (fun _ _ => rfl)

end Rx
