import RxModel.Lemmas.Nested
import RxModel.Lemmas.PlainSim
/-!
# `tee_map` on a plain observable = `tee_map` per key (C08, "identically on plain observables")

For branches that never complete early and never raise, whatever state they are in (`CleanOp`: every
composition of `mapOp` / `filterOp` / `scanOp` / … whose user functions return no error on any item and
any accumulator), run as plain operators by `PlainOp.ofLocal`
(both sides have the same branches: the statement compares the two joins), the plain implementation
(`_process_many.subscribe`: per-subscription lists `queue`, `has_next`, `is_done`) emits, item by
item and at completion, exactly what the keyed implementation emits for one key (`localTee`).
The only difference in state — plain `zip` does not clear the queue after a tuple, the keyed one
does — is invisible: a slot is read only while its `has_next` flag is set.
-/
namespace Rx

/-- the local branches themselves, run as plain operators that never complete early (not
`Pipes.plainBranches`, the plain interpretation of branch pipelines) -/
def plainBranches {α β} : LBranches α β → PBranches α β
  | .nil => .nil
  | .cons L r => .cons (PlainOp.ofLocal L) (plainBranches r)

theorem plainBranches_length {α β} : ∀ (lb : LBranches α β), (plainBranches lb).length = lb.length
  | .nil => rfl
  | .cons _ r => congrArg (· + 1) (plainBranches_length r)

/-- the plain branch states that correspond to local branch states: no branch is done -/
def liftSt {α β} : (lb : LBranches α β) → lb.St → (plainBranches lb).St
  | .nil, _ => ()
  | .cons _ r, s => ((s.1, false), liftSt r s.2)

/-- what the zip join needs of the plain queue `pq` and the keyed one `lq`: they agree wherever a flag
is set -/
def QAgree {β} (has : List Bool) (pq lq : List (Option β)) : Prop :=
  pq.length = lq.length ∧ has.length = lq.length ∧
    ∀ j, has.getD j false = true → pq.getD j none = lq.getD j none

theorem QAgree.set {β} {has : List Bool} {pq lq : List (Option β)} (h : QAgree has pq lq) (i : Nat) (v : Option β) :
    QAgree (has.set i true) (pq.set i v) (lq.set i v) := by
  obtain ⟨hl, hhl, hq⟩ := h
  refine ⟨by rw [List.length_set, List.length_set, hl], by rw [List.length_set, List.length_set, hhl], fun j hj => ?_⟩
  rw [getD_set, hhl] at hj
  rw [getD_set, getD_set, hl]
  by_cases c : i = j ∧ j < lq.length
  · rw [if_pos c, if_pos c]
  · rw [if_neg c] at hj
    rw [if_neg c, if_neg c]
    exact hq j hj

theorem QAgree.eq_of_all {β} {has : List Bool} {pq lq : List (Option β)} (h : QAgree has pq lq)
    (hall : has.all id = true) : pq = lq := by
  apply List.ext_getElem h.1
  intro m h1 h2
  have hm : m < has.length := h.2.1 ▸ h2
  rw [List.getElem_eq_getD none, List.getElem_eq_getD none]
  exact h.2.2 m ((List.getElem_eq_getD false).symm.trans (List.all_eq_true.mp hall _ (List.getElem_mem hm)))

theorem QAgree.reset {β} {has : List Bool} {q : List (Option β)} (h : has.length = q.length) :
    QAgree (has.map fun _ => false) q (q.map fun _ => none) := by
  refine ⟨(List.length_map _).symm, by rw [List.length_map, List.length_map, h], fun j hj => ?_⟩
  rw [List.getD_eq_getElem?_getD, List.getElem?_map] at hj
  cases h : has[j]? <;> rw [h] at hj <;> cases hj

/-- join states: same flags; the queues agree wherever a flag is set (zip) or everywhere -/
structure PJRel {β} (mode : Join) (pj : PJoinSt β) (lj : LJoinSt β) : Prop where
  has : pj.has = lj.has
  q : if mode = .zip then QAgree lj.has pj.queue lj.queue else pj.queue = lj.queue

theorem PJRel.init {β} (mode : Join) (n : Nat) :
    PJRel (β := β) mode ⟨List.replicate n none, List.replicate n false⟩ ⟨List.replicate n none, List.replicate n false⟩ :=
  ⟨rfl, by
    split
    · exact ⟨rfl, by rw [List.length_replicate, List.length_replicate], fun _ _ => rfl⟩
    · rfl⟩

theorem pjoin_item {β γ} {mode : Join} (mk : List (Option β) → γ) (inj : β → γ) (i : Nat) (x : β)
    {pj : PJoinSt β} {lj : LJoinSt β} (h : PJRel mode pj lj) :
    (pJoinNext mode mk inj pj i x).2 = (lJoinNext mode mk inj lj i (.item x)).2 ∧
    PJRel mode (pJoinNext mode mk inj pj i x).1 (lJoinNext mode mk inj lj i (.item x)).1 := by
  obtain ⟨hh, hq⟩ := h
  cases mode with
  | merge => exact ⟨rfl, hh, hq⟩
  | combine =>
    have hq : pj.queue = lj.queue := hq
    simp only [pJoinNext, lJoinNext, hh, hq]
    exact ⟨trivial, rfl, rfl⟩
  | zip =>
    have hq' := QAgree.set ((if_pos rfl).mp hq) i (some x)
    simp only [pJoinNext, lJoinNext, hh]
    by_cases hall : (lj.has.set i true).all id = true
    · -- a tuple: the plain side keeps its queue, which nobody reads before the flags are set again
      rw [if_pos hall, if_pos hall, hq'.eq_of_all hall]
      exact ⟨rfl, rfl, (if_pos rfl).mpr (.reset hq'.2.1)⟩
    · rw [if_neg hall, if_neg hall]
      exact ⟨rfl, rfl, (if_pos rfl).mpr hq'⟩

theorem feedPJoin_items {β γ} {mode : Join} (mk : List (Option β) → γ) (inj : β → γ) (i : Nat) (outs : List (LOut β))
    (h : ∀ o ∈ outs, o.isItem = true) : ∀ (pj : PJoinSt β) (lj : LJoinSt β), PJRel mode pj lj →
      (feedPJoin mode mk inj i pj outs).2 = (feedLJoin mode mk inj i lj outs).2 ∧
      PJRel mode (feedPJoin mode mk inj i pj outs).1 (feedLJoin mode mk inj i lj outs).1 := by
  rw [eq_map_items h]
  generalize items outs = xs
  induction xs with
  | nil => intro pj lj h; exact ⟨rfl, h⟩
  | cons x xs ih =>
    intro pj lj h
    obtain ⟨a1, a2⟩ := pjoin_item mk inj i x h
    obtain ⟨b1, b2⟩ := ih _ _ a2
    exact ⟨congr (congrArg _ a1) b1, b2⟩

/-- one item (or the completion) through all branches -/
theorem pbranches_step {α β γ} {mode : Join} (mk : List (Option β) → γ) (inj : β → γ) (x : Option α)
    (lb : LBranches α β) :
    ∀ (i : Nat) (ls : lb.St) (pj : PJoinSt β) (lj : LJoinSt β), lb.AllClean → PJRel mode pj lj →
      let R := PBranches.step mode mk inj (plainBranches lb) i (liftSt lb ls) pj x
      let Lr := LBranches.step mode mk inj lb i ls lj (x.elim .fin .item)
      R.2.2 = Lr.2.2 ∧ PJRel mode R.2.1 Lr.2.1 ∧ (x.isSome → R.1 = liftSt lb Lr.1) := by
  induction lb with
  | nil => intro _ _ pj lj _ hj; exact ⟨rfl, hj, fun _ => rfl⟩
  | cons L r ih =>
    intro i ls pj lj hc hj
    cases x with
    | some v =>
      obtain ⟨f1, f2⟩ := feedPJoin_items mk inj i _ (hc.1.next ls.1 v) pj lj hj
      obtain ⟨g1, g2, g3⟩ := ih (i + 1) ls.2 _ _ hc.2 f2
      exact ⟨congr (congrArg _ f1) g1, g2, fun h => congrArg (Prod.mk _) (g3 h)⟩
    | none =>
      obtain ⟨f1, f2⟩ := feedPJoin_items mk inj i _ (hc.1.fin ls.1) pj lj hj
      obtain ⟨g1, g2, _⟩ := ih (i + 1) ls.2 _ _ hc.2 f2
      exact ⟨congr (congrArg _ f1) g1, g2, nofun⟩

theorem liftSt_allDone {α β} : ∀ (lb : LBranches α β) (ls : lb.St), 0 < lb.length →
    (plainBranches lb).allDone (liftSt lb ls) = false
  | .nil, _, h => nomatch h
  | .cons _ _, _, _ => rfl

theorem liftSt_init {α β} : ∀ (lb : LBranches α β), (plainBranches lb).init = liftSt lb lb.init
  | .nil => rfl
  | .cons _ r => congrArg (Prod.mk _) (liftSt_init r)

theorem startOuts_ofLocal {α β γ} (mode : Join) (mk : List (Option β) → γ) (inj : β → γ) (lb : LBranches α β) :
    ∀ (i : Nat) (j : PJoinSt β), PBranches.startOuts mode mk inj (plainBranches lb) i j = (j, []) := by
  induction lb with
  | nil => intro _ _; rfl
  | cons L r ih => intro i j; exact congrArg (fun rr => (rr.1, [] ++ rr.2)) (ih (i + 1) j)

/-- **plain tee_map = keyed tee_map, chunk by chunk** (clean, non-completing branches, ≥ 1 branch) -/
theorem tee_plain_run {α β γ} (mode : Join) (mk : List (Option β) → γ) (inj : β → γ) (lb : LBranches α β)
    (hc : lb.AllClean) (hn : 0 < lb.length) :
    ∀ (xs : List α) (ls : lb.St) (pj : PJoinSt β) (lj : LJoinSt β), PJRel mode pj lj →
      (teePlain mode mk inj (plainBranches lb)).runP (liftSt lb ls, pj) xs = (localTee mode mk inj lb).runL (ls, lj) xs := by
  intro xs ls pj lj hj
  refine runP_eq_runL (P := teePlain mode mk inj (plainBranches lb)) (L := localTee mode mk inj lb)
    (fun s t => s.1 = liftSt lb t.1 ∧ PJRel mode s.2 t.2) ?_ ?_ xs _ (ls, lj) ⟨rfl, hj⟩
  · intro ⟨_, pj⟩ sl x ⟨hs, hj⟩
    subst hs
    obtain ⟨g1, g2, g3⟩ := pbranches_step mk inj (some x) lb 0 sl.1 pj sl.2 hc hj
    exact ⟨Prod.ext g1 ((congrArg _ (g3 rfl)).trans (liftSt_allDone lb _ hn)),
      (congrArg hasFatal (eq_map_items ((clean_tee mode mk inj lb hc).next sl x))).trans (hasFatal_map_item _), g3 rfl, g2⟩
  · intro ⟨_, pj⟩ sl ⟨hs, hj⟩
    subst hs
    exact (pbranches_step mk inj none lb 0 sl.1 pj sl.2 hc hj).1

end Rx
