import RxModel.Lemmas.Local
/-!
# About the definitions of RxModel/Split.lean

The inner keys `ik`, `wk` sit in the slot they are named after.  The ring of `roll` has enough slots
(`density_mul`), and its loops over the ring offsets are folds of one pass per offset (`foldD`).
`demux` of the outputs of an inner lifetime is `demuxL` of them, one key level up (`demux_liftOut`).
A lookup in the mapper dict of `group_by` finds nothing iff the key is not in the dict
(`gbLookup_eq_none`) and, the keys being distinct, finds the index stored with the key
(`gbLookup_of_mem`); `gbStep` keeps the keys distinct (`gb_nodup`).
-/
namespace Rx

theorem ik_idx (k : Key) : (ik k).idx = k.idx := rfl

theorem wk_idx (d : Nat) (k : Key) (o : Nat) : (wk d k o).idx = k.idx * d + o := rfl

/-- density = ⌈w/s⌉ slots suffice: density * s ≥ w -/
theorem density_mul (w s : Nat) (hs : 0 < s) : w ≤ density w s * s := by
  have h := Nat.div_add_mod w s
  have h2 := Nat.mod_lt w hs
  rw [Nat.mul_comm] at h
  unfold density
  split
  · rw [Nat.add_zero]; omega
  · rw [Nat.add_mul, Nat.one_mul]; omega

theorem density_pos (w s : Nat) (hs : 0 < s) (hw : 0 < w) : 0 < density w s :=
  Nat.pos_of_ne_zero fun h => by
    have := density_mul w s hs
    rw [h, Nat.zero_mul] at this
    omega

/-! ## The loops of `_roll` over the ring offsets

`rollDeliver` and `rollFlush` count their fuel down and compute the offset from it.  Each is the fold
`foldD` of one pass per offset over `List.range d` (`rollDeliver_range` with `dDeliver`,
`rollFlush_range` with `dFlush`), the loop as the code runs it, `for o in range(d)`: the form in which
the generated loops are linked (Props/LinkC05Ring.lean).  The flush computes its offset
`(first + o) % d` in the body; the simulation (Lemmas/SimRoll.lean, `flush_corr`) goes by induction
through any duplicate-free list of offsets, so it takes the same loop as a fold of `flushAt` over the
offsets themselves (`rollFlush_offs`). -/

def foldD {β} (dstep : Nat → (Nat → Option Nat) → (Nat → Option Nat) × List β) :
    List Nat → (Nat → Option Nat) → (Nat → Option Nat) × List β
  | [], ws => (ws, [])
  | a :: l, ws =>
    let r1 := dstep a ws
    let r := foldD dstep l r1.1
    (r.1, r1.2 ++ r.2)

theorem foldD_map {β} (step : Nat → (Nat → Option Nat) → (Nat → Option Nat) × List β) (g : Nat → Nat) (l : List Nat)
    (ws : Nat → Option Nat) : foldD step (l.map g) ws = foldD (fun a => step (g a)) l ws := by
  induction l generalizing ws with
  | nil => rfl
  | cons a l ih => rw [List.map_cons, foldD, foldD, ih]

theorem foldD_of_rec {β} (step : Nat → (Nat → Option Nat) → (Nat → Option Nat) × List β) (d : Nat)
    (R : Nat → (Nat → Option Nat) → (Nat → Option Nat) × List β) (h0 : ∀ ws, R 0 ws = (ws, []))
    (hS : ∀ o ws, R (o + 1) ws = ((R o (step (d - (o + 1)) ws).1).1, (step (d - (o + 1)) ws).2 ++ (R o (step (d - (o + 1)) ws).1).2))
    (ws : Nat → Option Nat) : R d ws = foldD step (List.range d) ws := by
  suffices h : ∀ m, m ≤ d → ∀ ws, R m ws = foldD step (List.range' (d - m) m) ws by
    rw [h d (Nat.le_refl d) ws, Nat.sub_self, List.range_eq_range']
  intro m
  induction m with
  | zero => exact fun _ ws => h0 ws
  | succ m ih =>
    intro hm ws
    rw [hS, List.range'_succ, foldD, ih (Nat.le_of_succ_le hm),
      show d - (m + 1) + 1 = d - m from Nat.succ_pred_eq_of_pos (Nat.sub_pos_of_lt hm)]

def dDeliver {α} (w d : Nat) (k : Key) (x : α) (n : Nat) (off : Nat) (ws : Nat → Option Nat) :
    (Nat → Option Nat) × List (Ev α) :=
  match ws (k.idx * d + off) with
  | some n0 =>
    if n - n0 + 1 = w then (upd ws (k.idx * d + off) none, [Ev.next (wk d k off) x, Ev.done (wk d k off)])
    else (ws, [Ev.next (wk d k off) x])
  | none => (ws, [])

theorem rollDeliver_range {α} (w d : Nat) (k : Key) (x : α) (n : Nat) (ws : Nat → Option Nat) :
    rollDeliver w d k x n d ws = foldD (dDeliver w d k x n) (List.range d) ws := by
  refine foldD_of_rec _ d (rollDeliver w d k x n) (fun _ => rfl) (fun o ws => ?_) ws
  simp only [rollDeliver, dDeliver]
  cases ws (k.idx * d + (d - (o + 1))) with
  | none => rfl
  | some n0 => by_cases hc : n - n0 + 1 = w <;> simp only [hc, if_true, if_false]

/-- one pass of the flush loop, at ring offset `off` -/
def flushAt {α} (d : Nat) (k : Key) (mk : Key → Ev α) (off : Nat) (ws : Nat → Option Nat) :
    (Nat → Option Nat) × List (Ev α) :=
  match ws (k.idx * d + off) with
  | some _ => (upd ws (k.idx * d + off) none, [mk (wk d k off)])
  | none => (ws, [])

/-- the `o`-th pass of the flush loop that starts at slot `first`: `flushAt` at offset `(first + o) % d`
(by `rfl`), written out -/
def dFlush {α} (d : Nat) (k : Key) (mk : Key → Ev α) (first : Nat) (o : Nat) (ws : Nat → Option Nat) :
    (Nat → Option Nat) × List (Ev α) :=
  match ws (k.idx * d + (first + o) % d) with
  | some _ => (upd ws (k.idx * d + (first + o) % d) none, [mk (wk d k ((first + o) % d))])
  | none => (ws, [])

theorem rollFlush_range {α} (d : Nat) (k : Key) (mk : Key → Ev α) (first : Nat) (ws : Nat → Option Nat) :
    rollFlush d k mk first d ws = foldD (dFlush d k mk first) (List.range d) ws := by
  refine foldD_of_rec _ d (rollFlush d k mk first) (fun _ => rfl) (fun o ws => ?_) ws
  simp only [rollFlush, dFlush]
  cases ws (k.idx * d + (first + (d - (o + 1))) % d) <;> rfl

theorem rollFlush_offs {α} (d : Nat) (k : Key) (mk : Key → Ev α) (first : Nat) (ws : Nat → Option Nat) :
    rollFlush d k mk first d ws = foldD (flushAt d k mk) ((List.range d).map fun o => (first + o) % d) ws :=
  (rollFlush_range d k mk first ws).trans (foldD_map (flushAt d k mk) _ _ ws).symm

theorem clearSlots_eq (d : Nat) (k : Key) (n : Nat) (ws : Nat → Option Nat) (j : Nat) :
    clearSlots d k n ws j = if j ∈ (List.range n).map (fun o => k.idx * d + o) then none else ws j := by
  induction n generalizing ws with
  | zero => rfl
  | succ n ih =>
    rw [clearSlots, ih, List.range_succ, List.map_append, List.map_singleton]
    by_cases h : j = k.idx * d + n
    · simp only [h, upd_same, List.mem_append, List.mem_singleton, or_true, if_true, ite_self]
    · simp only [upd_of_ne _ h, List.mem_append, List.mem_singleton, h, or_false]

/-- at the creation of a key its whole ring, the block of the slots `j` with `j / d = k[0]`, is cleared -/
theorem clearSlots_ring {d : Nat} (hd : 0 < d) (k : Key) (ws : Nat → Option Nat) (j : Nat) :
    clearSlots d k d ws j = if j / d = k.idx then none else ws j := by
  simp only [clearSlots_eq, mem_slots d hd]

theorem demux_liftOut {β} (i : Nat) (k : Key) (os : List (LOut β)) :
    demux (os.map (liftOut (i :: k))) = (os.map demuxL).map (liftOut k) := by
  induction os with
  | nil => rfl
  | cons o os ih => cases o <;> exact congrArg (_ :: ·) ih

theorem demux_append {β} (a b : List (Ev β)) : demux (a ++ b) = demux a ++ demux b :=
  List.flatMap_append

variable {κ : Type} [DecidableEq κ]

theorem gbLookup_cons (p : κ × Nat) (r : List (κ × Nat)) (g : κ) :
    gbLookup (p :: r) g = if p.1 = g then some p.2 else gbLookup r g := by
  by_cases h : p.1 = g <;> simp [gbLookup, h]

theorem gbLookup_eq_none {m : List (κ × Nat)} {g : κ} : gbLookup m g = none ↔ g ∉ m.map (·.1) := by
  simp only [gbLookup, Option.map_eq_none_iff, List.find?_eq_none, List.mem_map, decide_eq_true_eq, not_exists, not_and]

theorem gbLookup_of_mem {m : List (κ × Nat)} (hnd : (m.map (·.1)).Nodup) {p : κ × Nat} (hp : p ∈ m) :
    gbLookup m p.1 = some p.2 := by
  induction m with
  | nil => cases hp
  | cons q r ih =>
    obtain ⟨hq, hnd⟩ := List.nodup_cons.mp hnd
    rw [gbLookup_cons]
    rcases List.mem_cons.mp hp with rfl | hp
    · exact if_pos rfl
    · rw [if_neg fun e => hq (List.mem_map.mpr ⟨p, hp, e.symm⟩)]
      exact ih hnd hp

/-- the dicts of `gbStep` keep pairwise distinct keys (a key is added only when its lookup found nothing) -/
theorem gb_nodup (f : Val → Val) (st : GbSt Val) (ev : Ev Val)
    (hnd : ∀ i m, st.maps i = some m → (m.map (·.1)).Nodup) :
    ∀ i m, (gbStep f st ev).1.maps i = some m → (m.map (·.1)).Nodup := by
  -- a step changes the dict of at most one slot
  have key : ∀ j v, (∀ m, v = some m → (m.map (·.1)).Nodup) → ∀ i m, upd st.maps j v i = some m → (m.map (·.1)).Nodup := by
    intro j v hv i m
    unfold upd
    split
    · exact hv m
    · exact hnd i m
  cases ev with
  | create k => exact key _ _ fun m h => by cases h; exact List.nodup_nil
  | next k v =>
    cases h : st.maps k.idx with
    | none => simp only [gbStep, h]; exact hnd
    | some m0 =>
      cases hl : gbLookup m0 (f v) with
      | some j => simp only [gbStep, h, hl]; exact hnd
      | none =>
        simp only [gbStep, h, hl]
        refine key _ _ fun m he => ?_
        cases he
        rw [List.map_append]
        exact nodup_snoc (hnd _ _ h) (gbLookup_eq_none.mp hl)
  | done k | err k e =>
    cases h : st.maps k.idx with
    | none => simp only [gbStep, h]; exact hnd
    | some m0 => simp only [gbStep, h]; exact key _ _ fun m he => by cases he
  | fatal e => exact hnd

end Rx
