import RxGen.Handlers
import RxModel.Plain
import RxModel.Lemmas.HandlerSim
import RxModel.Lemmas.PyValLemmas
/-!
# Link theorems for the remaining dual-mode operators rxsci writes by hand: `flat_map`, `assert_`, `assert_1`

Both paths of each: the multiplexed handler (`idxStep` of `flatMapOp`, `assertOp`, `assert1Op`) and the plain closure (`flat_map_obs`,
stated through `Val.elems`: on a tuple or list what `(pFlatMap (·.elems.getD [])).next` emits, while an item that is not iterable
is `on_error` in the code and nothing in the model; `pAssert1`; plain `assert_` is `ops.map` of a raising function: RxPY).  With `LinkH_scan` / `LinkP_scan_*` these are all hand-written pairs
C01's statement quantifies over; the other dual operators delegate their plain path to RxPY.
-/
namespace Rx
open HM

theorem flat_map_mux_impl :
    OutImpl (flatMapOp fun v : Val => v.elems.getD []) (fun v => ∃ l, v.elems = some l) Gen.flat_map_mux_on_next := by
  refine ⟨fun k v _ ⟨l, hl⟩ _ => ?_, fun _ => rfl, fun _ => rfl, fun _ => rfl, fun _ => rfl⟩
  unfold Gen.flat_map_mux_on_next
  simp only [run_simps, PyAlg.elems_eq, hl, flatMapOp, List.map_map, Function.comp_def, liftOut]

/-- `flat_map_mux` keeps no state: whatever the store, it emits what `idxStep (flatMapOp elems)` emits — one item per element,
in order — for every item that is a tuple or a list (the only iterables of the model: `Val.elems`) -/
theorem LinkH_flat_map (st : Nat → Option Unit) (stores : Nat → Nat → Slot Val) (ev : Ev Val)
    (hlive : ∀ k v, ev = .next k v → st k.idx ≠ none)
    (hiter : ∀ k v, ev = .next k v → ∃ l, v.elems = some l) :
    runH (Gen.flat_map_mux_on_next ev) stores
      = (.ok (), stores, (idxStep (flatMapOp (fun v : Val => v.elems.getD [])) st ev).2) :=
  flat_map_mux_impl.link st stores ev hlive hiter fun k e _ => by
    simp only [idxStep]; split <;> exact .emit _

theorem assert_mux_impl (p : Val → Except Err Val) (err : Err) :
    OutImpl (assertOp (fun v => (p v).map Val.isTrue) err) (fun _ => True) (Gen.assert_mux_on_next p err) := by
  refine ⟨fun k v _ _ _ => ?_, fun _ => rfl, fun _ => rfl, fun _ => rfl, fun _ => rfl⟩
  unfold Gen.assert_mux_on_next
  cases hp : p v with
  | error e => simp only [run_simps, assertOp, hp, Except.map]; rfl
  | ok r => simp only [run_simps, assertOp, hp, Except.map, PyAlg.isTrue_eq]; cases Val.isTrue r <;> rfl

/-- `assert_mux`: a predicate that does not return `True`, or raises, is `observer.on_error`; otherwise the item passes -/
theorem LinkH_assert (p : Val → Except Err Val) (err : Err) (st : Nat → Option Unit) (stores : Nat → Nat → Slot Val) (ev : Ev Val)
    (hlive : ∀ k v, ev = .next k v → st k.idx ≠ none) :
    runH (Gen.assert_mux_on_next p err ev) stores
      = (.ok (), stores, (idxStep (assertOp (fun v => (p v).map Val.isTrue) err) st ev).2) :=
  (assert_mux_impl p err).link st stores ev hlive (fun _ _ _ => trivial) fun k e _ => by
    simp only [idxStep]; split <;> exact .emit _

theorem assert1_mux_impl (p : Val → Val → Bool) (err : Err) :
    SlotImpl (assert1Op p err) (fun s => s) (Gen.assert1_mux_on_next (fun a b => .ok (.bool (p a b))) err) := by
  refine ⟨fun k a => .create k _ a, fun k v s f => ?_, fun k s => .del_done k _, fun e => rfl⟩
  unfold Gen.assert1_mux_on_next
  cases s with
  | none => simp only [run_simps, ↓reduceIte]; rfl
  | some prev =>
    simp only [run_simps, ↓reduceIte, isTrue_boolV, assert1Op]
    cases p prev v <;> rfl

/-- `assert_1` (multiplexed): the previous item of the key in an `obj` state; every event on a live slot but an `OnErrorMux`
(the slot is deleted while the key stays live upstream: outside the model's domain) -/
theorem LinkH_assert1 (p : Val → Val → Bool) (err : Err) (st : Nat → Option (Option Val)) (ev : Ev Val)
    (hne : ∀ k e, ev ≠ .err k e)
    (hlive : ∀ k v, ev = .next k v → st k.idx ≠ none) :
    runH (Gen.assert1_mux_on_next (fun a b => .ok (.bool (p a b))) err ev) (repSt id st)
      = (.ok (), repSt id (idxStep (assert1Op p err) st ev).1, (idxStep (assert1Op p err) st ev).2) :=
  (assert1_mux_impl p err).link st ev hlive (fun k _ _ => .del_done k _) (fun k e he => absurd he (hne k e))

/-- the closure variables of the plain `assert_1` for the model state `s` (`none`: no previous item): #0 `last`, #1 `has_last` -/
def repA1 (s : Option Val) : Nat → Val := fun k =>
  if k = 0 then s.getD Val.none else if k = 1 then Val.bool s.isSome else Val.none

/-- what an observer of a plain operator has seen: the items, then `on_error` (called by the closure, or an escaped exception) -/
def obsOut2 (r : Except Err Unit × PSt Val) : List (LOut Val) :=
  r.2.out.map LOut.item ++ (match r.2.failed with | some e => [LOut.fatal e] | none => [])
    ++ (match r.1 with | .error e => [LOut.fatal e] | .ok _ => [])

theorem repA1_init : PM.initVars (Gen.assert1_obs_init (V := Val)) = repA1 none := by
  funext k
  match k with
  | 0 => rfl
  | 1 => rfl
  | k + 2 => rfl

theorem repA1_set (s : Option Val) (x : Val) :
    (fun j => if j = 1 then Val.bool true else if j = 0 then x else repA1 s j) = repA1 (some x) := by
  funext j
  by_cases h0 : j = 0 <;> by_cases h1 : j = 1 <;> simp [repA1, h0, h1]

theorem assert1_obs_next_run (p : Val → Val → Bool) (err : Err) (s : Option Val) (x : Val) :
    runP (Gen.assert1_obs_on_next (fun a b => .ok (.bool (p a b))) err x) { vars := repA1 s }
      = (.ok (), match s with
          | some prev => if p prev x then { vars := repA1 (some x), out := [x] } else { vars := repA1 (some x), failed := some err }
          | none => { vars := repA1 (some x), out := [x] }) := by
  unfold Gen.assert1_obs_on_next
  have h0 : repA1 s 0 = s.getD Val.none := rfl
  have h1 : repA1 s 1 = Val.bool s.isSome := rfl
  cases s with
  | none => simp only [run_simps, ↓reduceIte, h1, isTrue_boolV, PyAlg.bool, repA1_set]
  | some prev =>
    simp only [run_simps, ↓reduceIte, h0, h1, isTrue_boolV, PyAlg.bool, repA1_set]
    cases p prev x <;> rfl

/-- plain `assert_1` (`on_next` over the `nonlocal` variables `last`, `has_last`): the generated closure is `pAssert1.next` -/
theorem LinkP_assert1_next (p : Val → Val → Bool) (err : Err) (s : Option Val) (x : Val) :
    let r := PM.run (Gen.assert1_obs_on_next (fun a b => .ok (.bool (p a b))) err x) (repA1 s)
    let m := (pAssert1 p err).next s x
    r.2.vars = repA1 m.1 ∧ obsOut2 r = m.2.1 ∧ r.2.completed = m.2.2 := by
  cases s with
  | none => simp only [PM.run_eq, assert1_obs_next_run]; exact ⟨rfl, rfl, rfl⟩
  | some prev => simp only [PM.run_eq, assert1_obs_next_run, pAssert1]; cases p prev x <;> exact ⟨rfl, rfl, rfl⟩

/-- plain `flat_map` (`flat_map_obs`): one item per element of a tuple or list; anything else is `on_error` (so says `Val.elems`
of a `str` as well, which Python iterates by character) -/
theorem LinkP_flat_map_next (x : Val) (vars : Nat → Val) :
    obsOut2 (PM.run (Gen.flat_map_obs_on_next x) vars)
      = match x.elems with
        | some l => l.map LOut.item
        | none => [LOut.fatal "TypeError"] := by
  unfold Gen.flat_map_obs_on_next
  cases hx : x.elems <;> simp only [run_simps, PyAlg.elems_eq, hx, obsOut2, List.map_id'] <;> rfl

end Rx
