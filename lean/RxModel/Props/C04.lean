import RxModel.Lemmas.Obs
import RxModel.Lemmas.Split
import RxModel.Lemmas.Local
/-!
# C04 — group_by partitions the stream by key, preserving order within each group

About `groupByLS f`, the splitter of one parent key lifetime written as `group_by_mux.on_next`
(the mapper dict as an insertion-ordered association list, looked up with `==`, groups flushed in
dict order at parent completion).
-/
namespace Rx

/-- distinct key values in order of first appearance (`acc` = those already seen) -/
def keysAcc {α κ : Type} [DecidableEq κ] (f : α → κ) : List κ → List α → List κ
  | acc, [] => acc
  | acc, x :: xs => keysAcc f (if f x ∈ acc then acc else acc ++ [f x]) xs

def keysOf {α κ : Type} [DecidableEq κ] (f : α → κ) (xs : List α) : List κ := keysAcc f [] xs

/-- the groups: for each key in first-appearance order, the subsequence of its items -/
def groupsOf {α κ : Type} [DecidableEq κ] (f : α → κ) (xs : List α) : List (List α) :=
  (keysOf f xs).map fun k => xs.filter (fun x => f x = k)

theorem keysAcc_snoc {α κ : Type} [DecidableEq κ] (f : α → κ) (xs : List α) (acc : List κ) (x : α) :
    keysAcc f acc (xs ++ [x]) =
      if f x ∈ keysAcc f acc xs then keysAcc f acc xs else keysAcc f acc xs ++ [f x] := by
  induction xs generalizing acc with
  | nil => rfl
  | cons y ys ih => exact ih _

/-- keys are numbered in order of first appearance: a new key is appended, a known key changes nothing -/
theorem C04_first_appearance {α κ : Type} [DecidableEq κ] (f : α → κ) (xs : List α) (x : α) :
    keysOf f (xs ++ [x]) = if f x ∈ keysOf f xs then keysOf f xs else keysOf f xs ++ [f x] :=
  keysAcc_snoc f xs [] x

theorem mem_keysAcc {α κ : Type} [DecidableEq κ] (f : α → κ) (xs : List α) (acc : List κ) (k : κ) :
    k ∈ keysAcc f acc xs ↔ k ∈ acc ∨ ∃ x ∈ xs, f x = k := by
  induction xs generalizing acc with
  | nil => simp [keysAcc]
  | cons y ys ih =>
    rw [keysAcc, ih]
    simp only [List.mem_cons, exists_eq_or_imp]
    by_cases h : f y ∈ acc
    · rw [if_pos h, ← or_assoc, or_iff_left_of_imp (fun e : f y = k => e ▸ h)]
    · rw [if_neg h, List.mem_append, List.mem_singleton, or_assoc, @eq_comm _ k]

theorem mem_keysOf {α κ : Type} [DecidableEq κ] (f : α → κ) (xs : List α) (k : κ) :
    k ∈ keysOf f xs ↔ ∃ x ∈ xs, f x = k :=
  (mem_keysAcc f xs [] k).trans (or_iff_right List.not_mem_nil)

theorem keysAcc_nodup {α κ : Type} [DecidableEq κ] (f : α → κ) (xs : List α) (acc : List κ) (h : acc.Nodup) :
    (keysAcc f acc xs).Nodup := by
  induction xs generalizing acc with
  | nil => exact h
  | cons y ys ih =>
    apply ih
    split
    · exact h
    · next hy => exact nodup_snoc h hy

theorem keysOf_nodup {α κ : Type} [DecidableEq κ] (f : α → κ) (xs : List α) : (keysOf f xs).Nodup :=
  keysAcc_nodup f xs [] List.nodup_nil

/-- invariant of `group_by` after the items `xs` of one parent lifetime -/
structure GInv {α κ : Type} [DecidableEq κ] (f : α → κ) (xs : List α) (m : List (κ × Nat)) (ob : Obs α) : Prop where
  keys : m.map (·.1) = keysOf f xs
  idx : ∀ j (h : j < m.length), (m[j]).2 = j
  opn : ∀ j, ob.opn j = if h : j < m.length then some (xs.filter (fun x => f x = (m[j]).1)) else none
  closed : ob.closed = []

theorem fst_inj_of_nodup {κ} {m : List (κ × Nat)} (hnd : (m.map (·.1)).Nodup) {i j : Nat} (hi : i < m.length)
    (hj : j < m.length) (h : (m[i]).1 = (m[j]).1) : i = j :=
  (List.getElem_inj (xs := m.map (·.1)) (h₀ := by rwa [List.length_map]) (h₁ := by rwa [List.length_map]) hnd).mp
    (by rw [List.getElem_map, List.getElem_map]; exact h)

theorem GInv.step {α κ : Type} [DecidableEq κ] (f : α → κ) (xs : List α) (m : List (κ × Nat)) (ob : Obs α) (x : α)
    (h : GInv f xs m ob) :
    GInv f (xs ++ [x]) (gbNext f m x).1 (obsRun ob (gbNext f m x).2) := by
  obtain ⟨hk, hi, ho, hc⟩ := h
  have hnd : (m.map (·.1)).Nodup := hk ▸ keysOf_nodup f xs
  have hfil : ∀ k, (xs ++ [x]).filter (fun y => f y = k) =
      xs.filter (fun y => f y = k) ++ if f x = k then [x] else [] := by
    intro k
    rw [List.filter_append]
    by_cases hk : f x = k <;> simp [hk]
  by_cases hmem : f x ∈ m.map (·.1)
  · -- known key: the item joins its group `j`, nothing else moves
    obtain ⟨p, hp, hpx⟩ := List.mem_map.mp hmem
    obtain ⟨j, hj, rfl⟩ := List.getElem_of_mem hp
    have hl : gbLookup m (f x) = some j := by rw [← hpx, gbLookup_of_mem hnd hp, hi j hj]
    simp only [gbNext, hl]
    refine ⟨?_, hi, fun j2 => ?_, hc⟩
    · rw [C04_first_appearance, if_pos (hk ▸ hmem)]; exact hk
    · show (if j2 = j then (ob.opn j).map (· ++ [x]) else ob.opn j2) = _
      by_cases hlt : j2 < m.length
      · rw [dif_pos hlt, hfil]
        by_cases h2 : j2 = j
        · subst h2; rw [if_pos rfl, ho, dif_pos hlt, if_pos hpx.symm]; rfl
        · rw [if_neg h2, ho, dif_pos hlt, if_neg fun e => h2 (fst_inj_of_nodup hnd hlt hj (hpx.trans e).symm),
            List.append_nil]
      · rw [dif_neg hlt, if_neg (by omega), ho, dif_neg hlt]
  · -- new key: group `m.length` is opened and gets `x`, its first item
    have hkm : f x ∉ keysOf f xs := hk ▸ hmem
    have hlen : (m ++ [(f x, m.length)]).length = m.length + 1 := List.length_append
    simp only [gbNext, gbLookup_eq_none.mpr hmem]
    refine ⟨?_, fun j hj => ?_, fun j2 => ?_, hc⟩
    · rw [C04_first_appearance, if_neg hkm, List.map_append, hk]; rfl
    · rcases Nat.lt_or_eq_of_le (Nat.le_of_lt_succ (hlen ▸ hj)) with hlt | rfl
      · rw [List.getElem_append_left hlt]; exact hi j hlt
      · rw [List.getElem_concat_length rfl]
    · show (if j2 = m.length then (upd ob.opn m.length (some []) m.length).map (· ++ [x])
          else upd ob.opn m.length (some []) j2) = _
      rcases Nat.lt_trichotomy j2 m.length with hlt | rfl | hgt
      · have hne : f x ≠ (m[j2]).1 := fun e => hmem (List.mem_map.mpr ⟨m[j2], List.getElem_mem _, e.symm⟩)
        rw [if_neg (Nat.ne_of_lt hlt), upd_of_ne _ (Nat.ne_of_lt hlt), ho, dif_pos hlt,
          dif_pos (hlen ▸ Nat.lt_succ_of_lt hlt), List.getElem_append_left hlt, hfil, if_neg hne, List.append_nil]
      · rw [if_pos rfl, upd_same, dif_pos (hlen ▸ Nat.lt_succ_self _), List.getElem_concat_length rfl, hfil, if_pos rfl,
          List.filter_eq_nil_iff.mpr fun y hy e => hkm ((mem_keysOf f xs (f x)).mpr ⟨y, hy, of_decide_eq_true e⟩)]
        rfl
      · rw [if_neg (Nat.ne_of_gt hgt), upd_of_ne _ (Nat.ne_of_gt hgt), ho, dif_neg (Nat.lt_asymm hgt),
          dif_neg (hlen ▸ fun h => Nat.lt_irrefl _ (Nat.lt_of_lt_of_le hgt (Nat.le_of_lt_succ h)))]

/-- **C04**: no group is completed before the parent completes; at parent completion the groups are
completed in order of first appearance, and group `k` received exactly the items whose key is `k`,
in source order. -/
theorem C04_groups {α κ : Type} [DecidableEq κ] (f : α → κ) (xs : List α) :
    ((groupByLS f).windows xs).1 = [] ∧ ((groupByLS f).windows xs).2 = groupsOf f xs := by
  obtain ⟨(m : List (κ × Nat)), ob, ⟨hk, hi, ho, hc⟩, hw⟩ := (groupByLS f).windows_inv (GInv f)
    ⟨rfl, fun _ h => absurd h (Nat.not_lt_zero _), fun _ => rfl, rfl⟩ (GInv.step f) xs
  rw [hw]
  refine ⟨hc, ?_⟩
  -- the dict is flushed in insertion order, which is the order of the lifetime numbers
  have hfin : gbFin (α := α) m = (List.range m.length).map Cmd.cls := by
    apply List.ext_getElem (by simp [gbFin])
    intro i h1 _
    simp [gbFin, hi i (by simpa [gbFin] using h1)]
  show (obsRun ⟨ob.opn, []⟩ (gbFin m)).closed = groupsOf f xs
  rw [hfin, obsRun_cls List.nodup_range, groupsOf, ← hk]
  apply List.ext_getElem (by simp)
  intro i h1 _
  have hlt : i < m.length := by simpa using h1
  simp [ho, hlt]

/-- one group per distinct key value; every item belongs to exactly the group of its key -/
theorem C04_partition {α κ : Type} [DecidableEq κ] (f : α → κ) (xs : List α) :
    (keysOf f xs).Nodup ∧ (∀ k, k ∈ keysOf f xs ↔ ∃ x ∈ xs, f x = k) ∧
    (∀ x ∈ xs, ∀ k ∈ keysOf f xs, x ∈ xs.filter (fun y => f y = k) ↔ f x = k) := by
  refine ⟨keysOf_nodup f xs, mem_keysOf f xs, ?_⟩
  intro x hx k _
  simp [hx]

/-- groups in order of first appearance (odd before even), items in source order -/
example : (groupByLS (fun n : Nat => n % 2)).windows [1, 2, 3, 4, 5] = ([], [[1, 3, 5], [2, 4]]) := by decide

end Rx
