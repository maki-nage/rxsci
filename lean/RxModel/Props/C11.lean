import RxModel.Props.C05
import RxModel.Props.C09
import RxModel.Props.C02
import RxModel.Lemmas.Batch
/-!
# C11 — streaming promptness: results are emitted with the item that determines them

`MuxOp.run` yields one output chunk per input event: chunk `i` is what is emitted while event `i`
is processed.  Promptness statements are therefore equations about chunks.
-/
namespace Rx

/-- **causality** (every operator, every pipeline): the chunks emitted for a prefix of the input do
not depend on what follows — nothing is emitted for an input that has not been consumed yet, and
nothing already emitted is revised -/
theorem C11_causal {α β} (Q : MuxOp α β) (a b : List (Ev α)) :
    (Q.run (a ++ b)).take a.length = Q.run a := by
  rw [MuxOp.run, runSteps_append]
  exact List.take_left' (runSteps_length Q.step a Q.init)

/-- the same for one key lifetime of a local operator -/
theorem C11_causal_local {α β} (L : LocalOp α β) (a b : List α) :
    ((L.runL L.init (a ++ b)).1).take a.length = (L.runL L.init a).1 := by
  rw [LocalOp.runL, runRaw_append]
  exact List.take_left' (runRaw_fst_length L.next L.fin a L.init)

/-- per-item operators: `map` emits the image of item `i` in chunk `i` -/
theorem C11_map_chunks {α β} (f : α → β) (xs : List α) :
    ((mapOp (fun x => Except.ok (f x))).runL () xs).1 = xs.map (fun x => [LOut.item (f x)]) :=
  congrArg Prod.fst (runRaw_fixed (next := (mapOp _).next) (fun _ => rfl) xs)

theorem scan_chunks {α γ} (g : γ → α → γ) (seed : γ) (r : Bool) : ∀ (xs : List α) (s : Option γ),
    ((scanOp (fun a x => .ok (g a x)) seed r none).runL s xs).1 =
      if r then xs.map (fun _ => []) else (scanl' g (s.getD seed) xs).map (fun a => [LOut.item a]) := by
  intro xs
  induction xs with
  | nil => intro s; cases r <;> rfl
  | cons x xs ih =>
    intro s
    have h := ih (some (g (s.getD seed) x))
    cases r <;> exact congrArg (_ :: ·) h

/-- running aggregates: the i-th fold is emitted in chunk `i` (before the next item is consumed) -/
theorem C11_scan_chunks {α γ} (g : γ → α → γ) (seed : γ) (xs : List α) :
    ((scanOp (fun a x => .ok (g a x)) seed false none).runL none xs).1 =
      (scanl' g seed xs).map (fun a => [LOut.item a]) := scan_chunks g seed false xs none

/-- `reduce=True`: nothing before the key completes; the result waits for the end of the key -/
theorem C11_reduce_chunks {α γ} (g : γ → α → γ) (seed : γ) (xs : List α) :
    ((scanOp (fun a x => .ok (g a x)) seed true none).runL none xs).1 = xs.map (fun _ => []) :=
  scan_chunks g seed true xs none

/-- `take(n)`: item `i < n` is forwarded in its own chunk -/
theorem C11_take_chunks {α} (n : Nat) (xs : List α) :
    ((takeOp (α := α) n).runL n xs).1 = xs.zipIdx.map (fun p => if p.2 < n then [LOut.item p.1] else []) := by
  -- after `k` items the countdown stands at `n - k`
  have key : ∀ (xs : List α) (k : Nat),
      (runRaw (takeOp (α := α) n).next (takeOp (α := α) n).fin (n - k) xs).1 =
        (xs.zipIdx k).map (fun p => if p.2 < n then [LOut.item p.1] else []) := by
    intro xs
    induction xs with
    | nil => intro k; rfl
    | cons x xs ih =>
      intro k
      simp only [runRaw, takeOp, List.zipIdx_cons, List.map_cons, gt_iff_lt, Nat.sub_pos_iff_lt]
      split
      · exact congrArg _ (ih (k + 1))
      · rename_i hk
        have hn : n ≤ k := Nat.le_of_not_lt hk
        rw [show n - k = n - (k + 1) from
          (Nat.sub_eq_zero_of_le hn).trans (Nat.sub_eq_zero_of_le (Nat.le_succ_of_le hn)).symm]
        exact congrArg _ (ih (k + 1))
  exact key xs 0

/-- **windows**: `roll` completes window `j` while the item that is its `w`-th is consumed:
after the first `n` items exactly the windows with `j*s + w ≤ n` are completed -/
theorem C11_roll_prompt {α} (w s : Nat) (hs : 0 < s) (hw : 0 < w) (xs : List α) (n : Nat) :
    ∃ c, (∀ j, j < c ↔ j * s + w ≤ (xs.take n).length) ∧
      ((rollRingLS w s).windows (xs.take n)).1 = (List.range c).map (window w s (xs.take n)) :=
  C05_full_windows w s hs hw (xs.take n)

/-- **compose**: in `wrap sp Q` (group_by / roll / split / time_split around an inner pipeline) the
chunk of an outer event is the inner pipeline run on the inner events the splitter produces for that
same event, demultiplexed, followed by the splitter's outer events: a window's result is emitted
with its closing item -/
theorem C11_wrap_chunk {α β} (sp : Splitter α) (Q : MuxOp α β) (st : sp.S × Q.S) (e : Ev α) :
    ((wrap sp Q).step st e).2 =
      demux (runGroup Q.step st.2 (sp.step st.1 e).2.1).2 ++ (sp.step st.1 e).2.2.map OEv.toEv := rfl

/-- **chunk by chunk, nested pipelines**: over one key lifetime, the index-addressed implementation
of any nested pipeline (group_by / roll / split / time_split around inner pipelines, tee_map around
branches, any depth) emits in the chunk of item `i` exactly what the pipeline's local meaning emits
for item `i`, and in the completion chunk what it emits at completion — nothing earlier, nothing
later.  (For `wrap`, the local chunk of an item is `C11_wrap_local_chunk`: a window's result is
emitted with its closing item.) -/
theorem C11_chunks_nested (P : Pipe) (h : P.Nested) (k : Key) (xs : List Val) :
    P.mux.run ([.create k] ++ xs.map (.next k) ++ [.done k]) =
      [[.create k]] ++ (P.loc.runL P.loc.init xs).1.map (fun c => c.map (liftOut k)) ++
        [(P.loc.runL P.loc.init xs).2.map (liftOut k) ++ [.done k]] := by
  rw [impl_eq_ref_nested P h _ (wf_of_closed (lifetime_wf k xs)) (lifetime_clean k xs)]
  exact (C02_lifetime P.loc k xs (fun _ => none)).1

/-- the local chunk of `wrap` for one item: the inner operator run on the commands of that item -/
theorem C11_wrap_local_chunk {α β} (ls : LSplit α) (L : LocalOp α β) (s : (localWrap ls L).σ) (x : α) :
    ((localWrap ls L).next s x).2 = (runGroup (cmdStep L) s.2 (ls.next s.1 x).2).2.map demuxL := rfl

/-- **batch promptness**: while the item that follows `xs` is consumed, `batch(n)` emits the batch
that this item completes — the last `n` items — if and only if it is the `n`-th item of its
batch; otherwise nothing.  (Stated on the scan|filter|map state machine `bNext`, which is the
composed operator `batchG n` by `batchG_sim`.) -/
theorem C11_batch_prompt {α : Type} (n : Nat) (hn : 0 < n) (xs : List α) (x : α) :
    (bNext n (stateAfter (bNext n) none xs) x).2 =
      if xs.length % n + 1 = n then [.item (xs.drop (xs.length / n * n) ++ [x])] else [] := by
  have hp : pendingOf (stateAfter (bNext n) none xs) = xs.drop (xs.length / n * n) :=
    bNext_pending n hn xs none hn
  have hlen : (xs.drop (xs.length / n * n)).length = xs.length % n := by
    rw [List.length_drop, Nat.mul_comm]
    exact Nat.sub_eq_of_eq_add (Nat.mod_add_div ..).symm
  simp only [bNext_eq, hp, List.length_append, hlen, List.length_singleton, beq_iff_eq]

/-- the chunk of the item at position `|xs|` of any longer stream is that step's output -/
theorem C11_batch_chunk_at {α : Type} (n : Nat) (xs ys : List α) (x : α) :
    (runRaw (bNext n) bFin none (xs ++ x :: ys)).1[xs.length]? = some (bNext n (stateAfter (bNext n) none xs) x).2 :=
  runRaw_chunk_at (bNext n) bFin none xs ys x

end Rx
