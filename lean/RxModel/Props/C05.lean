import RxModel.Lemmas.RollFlush
import RxModel.Lemmas.RollCount
/-!
# C05 — roll produces exactly the count-based sliding windows, in order

`D.roll` wraps `rollLS w s` (LSplit.lean), which is the tumbling `rollCountLS w` (`_roll_count`, a
counter) when `w = s` and the ring `rollRingLS w s` otherwise.  `C05_tumbling` is about the former,
`C05_slots_suffice` is arithmetic, and the other statements are about `rollRingLS w s`, the splitter
of ONE parent key lifetime written as the code's `_roll.on_next` (item counter, ring of
`density = ⌈w/s⌉` slots, per-item loop over the slots).  They hold for all `w, s ≥ 1`, `w = s`
included; nothing is stated of `rollLS` itself, whose windows are those of the branch it takes.  The
observer `LSplit.windows` collects, in completion order, what each window received.
No bound on `w`, `s` or the stream length.
-/
namespace Rx

/-- `RInv` holds of the run from the initial state, and `windows` is read off its final state and
observer as in `LSplit.windows_inv`.  The run is named too, since `C05_ring_invariant` speaks of it. -/
theorem ring_run {α} (w s : Nat) (hs : 0 < s) (hw : 0 < w) (xs : List α) :
    ∃ st ob c, RInv w s (density w s) xs st ob c ∧
      (rollRingLS w s).runObs ((0, fun _ => none), Obs.empty) xs = (st, ob) ∧
      (rollRingLS w s).windows xs = (ob.closed, (obsRun ⟨ob.opn, []⟩ ((rollRingLS w s).fin st)).closed) := by
  obtain ⟨c, h⟩ := runObs_inv w s hs hw xs [] (0, fun _ => none) Obs.empty 0 (inv_init w s _ hw)
  exact ⟨_, _, c, h, rfl, rfl⟩

/-- the windows of the ring, completed and partial, with one `c` for both: `C05_full_windows` and
`C05_partial_windows` are its two halves -/
theorem ring_windows {α} (w s : Nat) (hs : 0 < s) (hw : 0 < w) (xs : List α) :
    ∃ c, (∀ j, j < c ↔ j * s + w ≤ xs.length) ∧ c ≤ (xs.length + s - 1) / s ∧
      (rollRingLS w s).windows xs = ((List.range c).map (window w s xs),
        (List.range' c ((xs.length + s - 1) / s - c)).map (fun j => xs.drop (j * s))) := by
  obtain ⟨⟨n, sl⟩, ob, c, h, -, hwin⟩ := ring_run w s hs hw xs
  obtain rfl : n = xs.length := h.hn
  obtain ⟨f1, -, f3⟩ := ring_flush w s _ hs hw (density_pos w s hs hw) (density_mul w s hs) xs _ ob c h
  exact ⟨c, h.cnt, f1, hwin.trans (Prod.ext h.closed f3)⟩

/-- **Full windows, any prefix.**  After any item sequence `xs` the windows completed so far are
exactly windows `0 .. c-1`, in opening order, window `j` holding the `w` consecutive items
`xs[j*s ..< j*s+w]` and nothing else, where `c` counts the `j` with `j*s + w ≤ |xs|`.
(Applied to a prefix this is promptness: a window is completed by its `w`-th item.) -/
theorem C05_full_windows {α} (w s : Nat) (hs : 0 < s) (hw : 0 < w) (xs : List α) :
    ∃ c, (∀ j, j < c ↔ j * s + w ≤ xs.length) ∧
      ((rollRingLS w s).windows xs).1 = (List.range c).map (window w s xs) := by
  obtain ⟨c, h1, -, h3⟩ := ring_windows w s hs hw xs
  exact ⟨c, h1, congrArg Prod.fst h3⟩

/-- **Ring invariant** (what makes the above true): after `xs`, ring slot `o` holds `n0` iff
`n0 = j*s` for a window `j` with `j % density = o` that is open (`j*s < |xs| < j*s + w`), and the
items that window has received are `xs.drop n0`; slots never hold two windows. -/
theorem C05_ring_invariant {α} (w s : Nat) (hs : 0 < s) (hw : 0 < w) (xs : List α) :
    let r := (rollRingLS w s).runObs ((0, fun _ => none), Obs.empty) xs
    r.1.1 = xs.length ∧
    (∀ o, o < density w s → ∀ n0, r.1.2 o = some n0 ↔
        ∃ j, n0 = j * s ∧ j % density w s = o ∧ (j * s < xs.length ∧ xs.length < j * s + w)) ∧
    (∀ o, r.2.opn o = (r.1.2 o).map (fun n0 => xs.drop n0)) := by
  obtain ⟨st, ob, c, h, hr, -⟩ := ring_run w s hs hw xs
  rw [hr]
  exact ⟨h.hn, h.slots, h.opn⟩

/-- `⌈w/s⌉` ring slots suffice, and two windows that are open at the same time never share a slot -/
theorem C05_slots_suffice (w s : Nat) (hs : 0 < s) (j1 j2 n : Nat)
    (h1 : j1 * s ≤ n ∧ n < j1 * s + w) (h2 : j2 * s ≤ n ∧ n < j2 * s + w)
    (hm : j1 % density w s = j2 % density w s) : j1 = j2 :=
  recv_unique w s (density w s) j1 j2 n (density_mul w s hs) h1 h2 hm

/-- **Partial windows at completion, in opening order.**  When the key completes after `xs`, the
windows still open are `c ≤ j < ⌈|xs|/s⌉` (`c` = number of full windows); they are closed in
increasing `j` — the order in which they were opened — and window `j` holds `xs.drop (j*s)`,
the items it has received so far and nothing else. -/
theorem C05_partial_windows {α} (w s : Nat) (hs : 0 < s) (hw : 0 < w) (xs : List α) :
    ∃ c, (∀ j, j < c ↔ j * s + w ≤ xs.length) ∧ c ≤ (xs.length + s - 1) / s ∧
      ((rollRingLS w s).windows xs).2 =
        (List.range' c ((xs.length + s - 1) / s - c)).map (fun j => xs.drop (j * s)) := by
  obtain ⟨c, h1, h2, h3⟩ := ring_windows w s hs hw xs
  exact ⟨c, h1, h2, congrArg Prod.snd h3⟩

/-- **window = stride** (`_roll_count`, the tumbling implementation): the windows are the
consecutive chunks of `w` items; the last, shorter chunk is closed when the key completes -/
theorem C05_tumbling {α} (w : Nat) (hw : 0 < w) (xs : List α) :
    (rollCountLS w).windows xs =
      ((List.range (xs.length / w)).map (window w w xs),
       if xs.length % w = 0 then [] else [xs.drop (xs.length / w * w)]) :=
  tumbling_windows w hw xs

/-- ring of `density 3 1 = 3` slots: two full windows, then the two still open at completion -/
example : ((rollRingLS 3 1).windows [0, 1, 2, 3]) = ([[0, 1, 2], [1, 2, 3]], [[2, 3], [3]]) := by decide
/-- `density 3 2 = 2`: slot 0 is reused by window 2 -/
example : ((rollRingLS 3 2).windows [1, 2, 3, 4, 5]) = ([[1, 2, 3], [3, 4, 5]], [[5]]) := by decide
example : ((rollCountLS 2).windows [1, 2, 3, 4, 5]) = ([[1, 2], [3, 4]], [[5]]) := by decide

end Rx
