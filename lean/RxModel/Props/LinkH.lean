import RxGen.Handlers
import RxModel.Lemmas.HandlerSim
import RxModel.Lemmas.PyValLemmas
/-!
# Link theorems for event handlers: the generated `on_next(i)` of `first_mux`, `take_mux`, `last_mux`, `scan_mux`, `_lag1`, `lag`,
`start_with`, `pad_start`, `pad_end`, `distinct` IS the index-addressed lift (`idxStep`) of the operator's local semantics

`RxGen/Handlers.lean` is generated by harness/pygen.py from the handlers in rxsci/operators/ and rxsci/data/:
the `if type(i) is rs.OnNextMux … elif …` chain as a `match`, the store calls as effects on slot arrays, `try/except`
as `try/catch`.  For every event and every store, running the generated handler gives exactly the new store and the
emitted events of `idxStep L` — the model's "state of a key lives in slot key[0]" semantics on which `impl_eq_ref`
(C01, C02, C03, C11) is built — provided the slot of the key is live for items and completions (what well-formedness
gives).  All but `first_mux` and `take_mux` delete the slot on an `OnErrorMux` although the key stays live upstream; that event is
excluded for them (the model's domain restriction, DESIGN.md §I.4).
-/
namespace Rx

open HM

theorem first_mux_impl : SlotImpl firstOp (fun b => some (.bool b)) Gen.first_mux_on_next := by
  refine ⟨fun k a => .create k _ a, fun k v b f => ?_, fun k b => .done_del k _, fun e => rfl⟩
  unfold Gen.first_mux_on_next
  simp only [run_simps]
  cases b <;> rfl

theorem LinkH_first (st : Nat → Option Bool) (ev : Ev Val)
    (hlive : ∀ k v, ev = .next k v → st k.idx ≠ none) :
    runH (Gen.first_mux_on_next ev) (repSt (fun b => some (.bool b)) st)
      = (.ok (), repSt (fun b => some (.bool b)) (idxStep firstOp st ev).1, (idxStep firstOp st ev).2) :=
  first_mux_impl.link st ev hlive (fun k _ _ => .done_del k _) (fun k e _ => by split <;> exact .emit _ _ _)

def encNat (c : Nat) : Option Val := some (.int (c : Int))

theorem take_mux_impl (n : Nat) : SlotImpl (takeOp n) encNat (Gen.take_mux_on_next (.int n)) := by
  refine ⟨fun k a => .create k _ a, fun k v (c : Nat) f => ?_, fun k c => .done_del k _, fun e => rfl⟩
  unfold Gen.take_mux_on_next
  simp only [run_simps, encNat, PyAlg.int, lt_int, sub_int]
  by_cases hc : 0 < c
  · have hsub : (c : Int) - 1 = ((c - 1 : Nat) : Int) := (Int.natCast_sub hc).symm
    simp only [takeOp, Int.natCast_pos, hc, decide_true, if_true, hsub]; rfl
  · simp only [takeOp, Int.natCast_pos, hc, decide_false, Bool.false_eq_true, if_false]; rfl

theorem LinkH_take (n : Nat) (st : Nat → Option Nat) (ev : Ev Val)
    (hlive : ∀ k v, ev = .next k v → st k.idx ≠ none) :
    runH (Gen.take_mux_on_next (.int n) ev) (repSt encNat st)
      = (.ok (), repSt encNat (idxStep (takeOp n) st ev).1, (idxStep (takeOp n) st ev).2) :=
  (take_mux_impl n).link st ev hlive (fun k _ _ => .done_del k _) (fun k e _ => by split <;> exact .emit _ _ _)

theorem last_mux_impl : SlotImpl lastOp (fun s => s) Gen.last_mux_on_next := by
  refine ⟨fun k a => .create k _ a, fun k v s f => ?_, fun k s f => ?_, fun e => rfl⟩
  · unfold Gen.last_mux_on_next
    simp only [run_simps]; rfl
  · unfold Gen.last_mux_on_next
    cases s <;> simp only [run_simps] <;> rfl

theorem LinkH_last (st : Nat → Option (Option Val)) (ev : Ev Val) (hne : ∀ k e, ev ≠ .err k e)
    (hlive : ∀ k, ((∃ v, ev = .next k v) ∨ ev = .done k) → st k.idx ≠ none) :
    runH (Gen.last_mux_on_next ev) (repSt id st)
      = (.ok (), repSt id (idxStep lastOp st ev).1, (idxStep lastOp st ev).2) :=
  last_mux_impl.link st ev (fun k v he => hlive k (.inl ⟨v, he⟩)) (fun k he hn => absurd hn (hlive k (.inr he)))
    (fun k e he => absurd he (hne k e))

theorem scan_mux_impl (g : Val → Val → Except Err Val) (seed : Val) (reduce : Bool) (term : Option (Val → Val)) :
    SlotImpl (scanOp g seed reduce term) (fun s => s) (Gen.scan_mux_on_next seed g reduce (term.map fun t v => .ok (t v))) := by
  refine ⟨fun k a => .create k _ a, fun k v a f => ?_, fun k a f => ?_, fun e => rfl⟩
  · unfold Gen.scan_mux_on_next
    -- the run stops at the accumulator's call; its result, then `reduce`, are looked at where the code does
    cases a <;> simp only [run_simps, ↓reduceIte, scanOp, scanNext]
    case none => cases g seed v <;> simp only [run_simps] <;> cases reduce <;> rfl
    case some a => cases g a v <;> simp only [run_simps] <;> cases reduce <;> rfl
  · unfold Gen.scan_mux_on_next
    cases term <;> cases a <;> simp only [run_simps, ↓reduceIte] <;> cases reduce <;> rfl

theorem LinkH_scan (g : Val → Val → Except Err Val) (seed : Val) (reduce : Bool) (term : Option (Val → Val))
    (st : Nat → Option (Option Val)) (ev : Ev Val) (hne : ∀ k e, ev ≠ .err k e)
    (hlive : ∀ k, ((∃ v, ev = .next k v) ∨ ev = .done k) → st k.idx ≠ none) :
    runH (Gen.scan_mux_on_next seed g reduce (term.map fun t v => .ok (t v)) ev) (repSt id st)
      = (.ok (), repSt id (idxStep (scanOp g seed reduce term) st ev).1, (idxStep (scanOp g seed reduce term) st ev).2) :=
  (scan_mux_impl g seed reduce term).link st ev (fun k v he => hlive k (.inl ⟨v, he⟩))
    (fun k he hn => absurd hn (hlive k (.inr he))) (fun k e he => absurd he (hne k e))

theorem lag1_impl : SlotImpl (lag1Op (fun a b => Val.tup [a, b])) (fun s => s) Gen.lag1_on_next := by
  refine ⟨fun k a => .create k _ a, fun k v s f => ?_, fun k s => .del_done k _, fun e => rfl⟩
  unfold Gen.lag1_on_next
  cases s <;> simp only [run_simps, ↓reduceIte] <;> rfl

theorem LinkH_lag1 (st : Nat → Option (Option Val)) (ev : Ev Val) (hne : ∀ k e, ev ≠ .err k e)
    (hlive : ∀ k v, ev = .next k v → st k.idx ≠ none) :
    runH (Gen.lag1_on_next ev) (repSt id st)
      = (.ok (), repSt id (idxStep (lag1Op (fun a b => Val.tup [a, b])) st ev).1,
          (idxStep (lag1Op (fun a b => Val.tup [a, b])) st ev).2) :=
  lag1_impl.link st ev hlive (fun k _ _ => .del_done k _) (fun k e he => absurd he (hne k e))

/-- the state of `start_with` / `pad_start`, whether the padding is out: NOTSET until the first item of the key, then `True` -/
def encFlag (b : Bool) : Option Val := if b then some (.bool true) else none

theorem start_with_impl (padding : List Val) : SlotImpl (startWithOp padding) encFlag (Gen.start_with_on_next padding) := by
  refine ⟨fun k a => .create k _ a, fun k v b f => ?_, fun k b => .del_done k _, fun e => rfl⟩
  unfold Gen.start_with_on_next
  cases b <;> simp only [run_simps, ↓reduceIte, encFlag, startWithOp, List.map_append, List.map_map, Function.comp_def, liftOut] <;> rfl

theorem LinkH_start_with (padding : List Val) (st : Nat → Option Bool) (ev : Ev Val) (hne : ∀ k e, ev ≠ .err k e)
    (hlive : ∀ k v, ev = .next k v → st k.idx ≠ none) :
    runH (Gen.start_with_on_next padding ev) (repSt encFlag st)
      = (.ok (), repSt encFlag (idxStep (startWithOp padding) st ev).1, (idxStep (startWithOp padding) st ev).2) :=
  (start_with_impl padding).link st ev hlive (fun k _ _ => .del_done k _) (fun k e he => absurd he (hne k e))

theorem pad_start_impl (size : Nat) (value : Option Val) :
    SlotImpl (padStartOp size value) encFlag (Gen.pad_start_on_next value size) := by
  refine ⟨fun k a => .create k _ a, fun k v b f => ?_, fun k b => .del_done k _, fun e => rfl⟩
  unfold Gen.pad_start_on_next
  cases b
  · cases value <;>
      simp only [run_simps, ↓reduceIte, encFlag, padStartOp, List.length_range, List.map_const', List.map_append, List.map_replicate,
        liftOut] <;> rfl
  · simp only [run_simps, ↓reduceIte, encFlag]; rfl

theorem LinkH_pad_start (size : Nat) (value : Option Val) (st : Nat → Option Bool) (ev : Ev Val) (hne : ∀ k e, ev ≠ .err k e)
    (hlive : ∀ k v, ev = .next k v → st k.idx ≠ none) :
    runH (Gen.pad_start_on_next value size ev) (repSt encFlag st)
      = (.ok (), repSt encFlag (idxStep (padStartOp size value) st ev).1, (idxStep (padStartOp size value) st ev).2) :=
  (pad_start_impl size value).link st ev hlive (fun k _ _ => .del_done k _) (fun k e he => absurd he (hne k e))

theorem pad_end_impl (size : Nat) (value : Option Val) :
    SlotImpl (padEndOp size value) (fun s => s) (Gen.pad_end_on_next value size) := by
  refine ⟨fun k a => .create k _ a, fun k v s f => ?_, fun k s f => ?_, fun e => rfl⟩
  · unfold Gen.pad_end_on_next
    simp only [run_simps]; rfl
  · unfold Gen.pad_end_on_next
    cases s
    · simp only [run_simps, ↓reduceIte]; rfl
    · cases value <;>
        simp only [run_simps, ↓reduceIte, padEndOp, List.length_range, List.map_const', List.map_replicate, liftOut] <;> rfl

theorem LinkH_pad_end (size : Nat) (value : Option Val) (st : Nat → Option (Option Val)) (ev : Ev Val) (hne : ∀ k e, ev ≠ .err k e)
    (hlive : ∀ k, ((∃ v, ev = .next k v) ∨ ev = .done k) → st k.idx ≠ none) :
    runH (Gen.pad_end_on_next value size ev) (repSt id st)
      = (.ok (), repSt id (idxStep (padEndOp size value) st ev).1, (idxStep (padEndOp size value) st ev).2) :=
  (pad_end_impl size value).link st ev (fun k v he => hlive k (.inl ⟨v, he⟩)) (fun k he hn => absurd hn (hlive k (.inr he)))
    (fun k e he => absurd he (hne k e))

/-! `lag` keeps a `deque`, `distinct` a `set`, in an `obj` slot, and both mutate it in place: the translator writes the new container
back to the slot (RxModel/PyHandler.lean) -/
def encList (q : List Val) : Option Val := some (Val.lst q)

theorem lag_impl (n : Nat) : SlotImpl (lagOp n (fun a b => Val.tup [a, b])) encList (Gen.lag_on_next (.int (n : Int))) := by
  refine ⟨fun k a => .create_set k _ a, fun k v (q : List Val) f => ?_, fun k q => .del_done k _, fun e => rfl⟩
  unfold Gen.lag_on_next
  simp only [run_simps, encList, lagOp, append_lst, len_lst, lt_int, nth_lst, popleft_lst]
  cases q <;> simp only [run_simps, List.getD_cons_zero, List.headD_cons, List.tail_cons,
    Int.ofNat_lt, decide_eq_true_eq, gt_iff_lt] <;> split <;> rfl

/-- `lag(size)` for `size ≠ 1` (rxsci takes `_lag1` for size 1): a deque kept in the slot -/
theorem LinkH_lag (n : Nat) (st : Nat → Option (List Val)) (ev : Ev Val) (hne : ∀ k e, ev ≠ .err k e)
    (hlive : ∀ k v, ev = .next k v → st k.idx ≠ none) :
    runH (Gen.lag_on_next (.int (n : Int)) ev) (repSt encList st)
      = (.ok (), repSt encList (idxStep (lagOp n (fun a b => Val.tup [a, b])) st ev).1,
          (idxStep (lagOp n (fun a b => Val.tup [a, b])) st ev).2) :=
  (lag_impl n).link st ev hlive (fun k _ _ => .del_done k _) (fun k e he => absurd he (hne k e))

theorem distinct_impl (f : Val → Except Err Val) : SlotImpl (distinctOp f) encList (Gen.distinct_on_next (some f)) := by
  refine ⟨fun k a => .create_set k _ a, fun k v (s : List Val) f' => ?_, fun k s => .del_done k _, fun e => rfl⟩
  unfold Gen.distinct_on_next
  simp only [run_simps, ↓reduceIte, encList, distinctOp]
  cases f v with
  | error e => simp only [run_simps]; rfl
  | ok kk =>
    simp only [run_simps, contains_lst, setAdd_lst]
    by_cases hin : kk ∈ s <;>
      simp only [hin, decide_true, decide_false, Bool.not_true, Bool.not_false, Bool.false_eq_true, if_true, if_false] <;> rfl

/-- `distinct(key_mapper)`: a set kept in the slot; a raising key mapper is `observer.on_error` -/
theorem LinkH_distinct (f : Val → Except Err Val) (st : Nat → Option (List Val)) (ev : Ev Val) (hne : ∀ k e, ev ≠ .err k e)
    (hlive : ∀ k v, ev = .next k v → st k.idx ≠ none) :
    runH (Gen.distinct_on_next (some f) ev) (repSt encList st)
      = (.ok (), repSt encList (idxStep (distinctOp f) st ev).1, (idxStep (distinctOp f) st ev).2) :=
  (distinct_impl f).link st ev hlive (fun k _ _ => .del_done k _) (fun k e he => absurd he (hne k e))

end Rx
