import RxGen.Handlers
import RxModel.Lemmas.SimRoll
import RxModel.Lemmas.PyHandlerLemmas
import RxModel.Lemmas.PyValLemmas
/-!
# C05 link theorem, ring path: the `on_next` handler of `roll_mux._roll` (window ≠ stride), generated from
rxsci/data/roll.py, IS the model's `rollStep`

The handler keeps two typed states: #0 `state_n` (uint, default 0: items seen by the key) and #1 `state_w` (int, default -1:
per ring slot `key[0]*density + offset`, the index of the first item of the window in that slot).  Its slot arithmetic is
Python integer arithmetic on store values and key indices (`%`, `//`, `range`, an int used as a key component): the
translator maps these to `PyAlg.mod / floordiv / range / toNat`, interpreted at `Val` with floor semantics.

A generated `for offset in range(density)` loop is a fold `foldD` of one model step per offset (`ring_loop`), and the model's
countdown recursions `rollDeliver` / `rollFlush` are these folds (`rollDeliver_range`, `rollFlush_range`, Lemmas/Split.lean).
`repRoll` is the exact content of the two slot arrays: ring slots of keys that were never created are CLEARED, the others hold
-1 or the window's first index.
-/
namespace Rx
open HM

/-- `encNat` of LinkH.lean (a Link module imports no other) -/
def encRingN (n : Nat) : Option Val := some (.int (n : Int))

def encRingW : Option Nat → Val
  | none => .int (-1)
  | some n0 => .int (n0 : Int)

theorem eq_encRingW (o : Option Nat) : PyAlg.eq (encRingW o) (Val.int (-1)) = o.isNone := by
  cases o with
  | none => exact eq_intZ _ _
  | some n => exact (eq_intZ _ _).trans (decide_eq_false (by omega))

/-- stores whose state #1 holds the ring array `ws` on the slots `cr` that were added -/
def ringSt (base : Nat → Nat → Slot Val) (cr : Nat → Bool) (ws : Nat → Option Nat) : Nat → Nat → Slot Val :=
  fun sid j => if sid = 1 then (if cr j then some (some (encRingW (ws j))) else none) else base sid j

theorem ringSt_ring {base cr ws} {j : Nat} (h : cr j = true) : ringSt base cr ws 1 j = some (some (encRingW (ws j))) := by
  simp only [ringSt, h, if_true]

theorem ringSt_set {base cr ws} {j : Nat} (v : Option Nat) (h : cr j = true) :
    updSlot (ringSt base cr ws) 1 j (some (some (encRingW v))) = ringSt base cr (upd ws j v) := by
  funext sid i
  by_cases h1 : sid = 1 <;> by_cases h2 : i = j <;> simp [ringSt, updSlot, upd, h1, h2, h]

theorem ringSt_set_none {base cr ws} {j : Nat} (h : cr j = true) :
    updSlot (ringSt base cr ws) 1 j (some (some (Val.int (-1)))) = ringSt base cr (upd ws j none) := ringSt_set none h

theorem ringSt_set_some {base cr ws} {j : Nat} (n : Nat) (h : cr j = true) :
    updSlot (ringSt base cr ws) 1 j (some (some (Val.int (n : Int)))) = ringSt base cr (upd ws j (some n)) :=
  ringSt_set (some n) h

/-- a `for` over the offsets `l` whose every pass performs `dstep off` on the ring array and emits what it emits is `foldD dstep l`.
`P` is what a pass may assume of the ring array: the delivery loop needs the open windows to have started at or before the
item counter (its subtraction is then `sub_natV`), the flush loop nothing -/
theorem ring_loop (body : Val → PUnit → HM Val (ForInStep PUnit)) (base cr)
    (dstep : Nat → (Nat → Option Nat) → (Nat → Option Nat) × List (Ev Val)) (l : List Nat)
    (P : (Nat → Option Nat) → Prop) (hP : ∀ off ∈ l, ∀ ws, P ws → P (dstep off ws).1)
    (hbody : ∀ off ∈ l, ∀ ws s, P ws → s.stores = ringSt base cr ws →
      runS (body (Val.int (off : Nat)) PUnit.unit) s
        = (.ok (ForInStep.yield PUnit.unit), { s with stores := ringSt base cr (dstep off ws).1, out := s.out ++ (dstep off ws).2 }))
    (ws : Nat → Option Nat) (s : HSt Val) (hp : P ws) (hs : s.stores = ringSt base cr ws) :
    runS (forIn (l.map (fun i => Val.int (i : Nat))) PUnit.unit body) s
      = (.ok PUnit.unit, { s with stores := ringSt base cr (foldD dstep l ws).1, out := s.out ++ (foldD dstep l ws).2 }) := by
  induction l generalizing ws s with
  | nil => cases s; subst hs; simp only [List.map_nil, List.forIn_nil, runS_pure, foldD, List.append_nil]
  | cons a l ih =>
    simp only [List.map_cons, List.forIn_cons, runS_bind, hbody a List.mem_cons_self ws s hp hs, thenRun_ok]
    rw [ih (fun off ho => hP off (List.mem_cons_of_mem _ ho)) (fun off ho => hbody off (List.mem_cons_of_mem _ ho)) _ _
      (hP a List.mem_cons_self ws hp) rfl]
    simp only [foldD, List.append_assoc]

/-- one pass of the delivery loop body of `_roll` (the generated code) is one `dDeliver` step -/
theorem deliver_body (w d : Nat) (k : Key) (v : Val) (n : Nat) (base cr) (hcr : ∀ o, o < d → cr (k.idx * d + o) = true)
    (off : Nat) (hoff : off < d) (ws : Nat → Option Nat) (s : HSt Val)
    (hp : ∀ o, o < d → ∀ n0, ws (k.idx * d + o) = some n0 → n0 ≤ n) (hs : s.stores = ringSt base cr ws) :
    runS (do
        let t12 ← (MonadLift.monadLift (PyAlg.mul (Val.int (Int.ofNat k.idx)) (Val.int (d : Int)) : Except Err Val) : HM Val Val)
        let t13 ← (MonadLift.monadLift (PyAlg.add t12 (Val.int (off : Nat)) : Except Err Val) : HM Val Val)
        let t14 ← toIdx t13
        let w_value ← getState 1 (t14 :: k)
        let t15 ← unmark w_value
        if (!PyAlg.eq t15 (Val.int (-1))) = true then do
            let t16 ← toIdx t13
            emit (Ev.next (t16 :: k) v)
            let t17 ← unmark (some (Val.int (n : Int)))
            let t18 ← unmark w_value
            let t19 ← (MonadLift.monadLift (PyAlg.sub t17 t18 : Except Err Val) : HM Val Val)
            let t20 ← (MonadLift.monadLift (PyAlg.add t19 (Val.int 1) : Except Err Val) : HM Val Val)
            if PyAlg.eq t20 (Val.int (w : Int)) = true then do
                let t21 ← toIdx t13
                setState 1 (t21 :: k) (Val.int (-1))
                let t22 ← toIdx t13
                emit (Ev.done (t22 :: k))
                pure (ForInStep.yield PUnit.unit)
              else pure (ForInStep.yield PUnit.unit)
          else pure (ForInStep.yield PUnit.unit)) s
      = (.ok (ForInStep.yield PUnit.unit),
          { s with stores := ringSt base cr (dDeliver w d k v n off ws).1, out := s.out ++ (dDeliver w d k v n off ws).2 }) := by
  simp only [run_simps, Int.ofNat_eq_natCast, mul_natV, add_natV, toIdx_natV, idx_cons, hs, ringSt_ring (hcr off hoff), eq_encRingW,
    dDeliver]
  cases h : ws (k.idx * d + off) with
  | none => simp only [run_simps, ← hs]
  | some n0 =>
    simp only [run_simps, encRingW, sub_natV n n0 (hp off hoff n0 h), add_natV1, eq_natV, decide_eq_true_eq,
      ringSt_set_none (hcr off hoff), wk]
    by_cases hc : n - n0 + 1 = w <;> simp only [hc, if_true, if_false]

/-- one pass of the flush loop body of `_roll` (completion or error of the parent) is one `dFlush` step -/
theorem flush_body (d : Nat) (hd : 0 < d) (k : Key) (mk : Key → Ev Val) (f : Nat) (base cr) (hcr : ∀ o, o < d → cr (k.idx * d + o) = true)
    (o : Nat) (ws : Nat → Option Nat) (s : HSt Val) (hs : s.stores = ringSt base cr ws) :
    runS (do
        let t37 ← (MonadLift.monadLift (PyAlg.add (Val.int (f : Int)) (Val.int (o : Nat)) : Except Err Val) : HM Val Val)
        let t38 ← (MonadLift.monadLift (PyAlg.mod t37 (Val.int (d : Int)) : Except Err Val) : HM Val Val)
        let t39 ← (MonadLift.monadLift (PyAlg.mul (Val.int (Int.ofNat k.idx)) (Val.int (d : Int)) : Except Err Val) : HM Val Val)
        let t40 ← (MonadLift.monadLift (PyAlg.add t39 t38 : Except Err Val) : HM Val Val)
        let t41 ← toIdx t40
        let t42 ← getState 1 (t41 :: k)
        let t43 ← unmark t42
        if (!PyAlg.eq t43 (Val.int (-1))) = true then do
            let t44 ← toIdx t40
            emit (mk (t44 :: k))
            let t45 ← toIdx t40
            setState 1 (t45 :: k) (Val.int (-1))
            pure (ForInStep.yield PUnit.unit)
          else pure (ForInStep.yield PUnit.unit)) s
      = (.ok (ForInStep.yield PUnit.unit),
          { s with stores := ringSt base cr (dFlush d k mk f o ws).1, out := s.out ++ (dFlush d k mk f o ws).2 }) := by
  have hoff : (f + o) % d < d := Nat.mod_lt _ hd
  simp only [run_simps, Int.ofNat_eq_natCast, mul_natV, add_natV, mod_natV (f + o) d (Nat.ne_of_gt hd), toIdx_natV, idx_cons, hs,
    ringSt_ring (hcr _ hoff), eq_encRingW, dFlush]
  cases h : ws (k.idx * d + (f + o) % d) with
  | none => simp only [run_simps, ← hs]
  | some n0 => simp only [run_simps, ringSt_set_none (hcr _ hoff), wk]

theorem ring_le_upd {d : Nat} {k : Key} {n : Nat} {ws : Nat → Option Nat}
    (hp : ∀ o, o < d → ∀ n0, ws (k.idx * d + o) = some n0 → n0 ≤ n) (j : Nat) (v : Option Nat) (hv : ∀ n0, v = some n0 → n0 ≤ n) :
    ∀ o, o < d → ∀ n0, upd ws j v (k.idx * d + o) = some n0 → n0 ≤ n := by
  intro o ho n0
  unfold upd
  split
  · exact hv n0
  · exact hp o ho n0

theorem dDeliver_inv {α} (w d : Nat) (k : Key) (x : α) (n off : Nat) (ws : Nat → Option Nat)
    (hp : ∀ o, o < d → ∀ n0, ws (k.idx * d + o) = some n0 → n0 ≤ n) :
    ∀ o, o < d → ∀ n0, (dDeliver w d k x n off ws).1 (k.idx * d + o) = some n0 → n0 ≤ n := by
  unfold dDeliver
  cases ws (k.idx * d + off) with
  | none => exact hp
  | some m =>
    by_cases hc : n - m + 1 = w <;> simp only [hc, if_true, if_false]
    · exact ring_le_upd hp _ none fun _ h => nomatch h
    · exact hp

/-- store #0 of `_roll` for the counters `n` -/
def ringBase (n : Nat → Option Nat) : Nat → Nat → Slot Val := fun sid i => if sid = 0 then (n i).map encRingN else none
/-- the ring slots that were added: those of the keys that have a counter -/
def ringLive (d : Nat) (n : Nat → Option Nat) : Nat → Bool := fun j => (n (j / d)).isSome

/-- `ringSt (ringBase st.n) (ringLive d st.n) st.w` with the two written out; the proofs rewrite by `repRoll_eq` and work with
`ringBase` / `ringLive` -/
def repRoll (d : Nat) (st : RollSt) : Nat → Nat → Slot Val :=
  ringSt (fun sid i => if sid = 0 then (st.n i).map encRingN else none) (fun j => (st.n (j / d)).isSome) st.w

theorem repRoll_eq (d : Nat) (st : RollSt) : repRoll d st = ringSt (ringBase st.n) (ringLive d st.n) st.w := rfl

theorem ringLive_slot (d : Nat) (n : Nat → Option Nat) (k : Key) (h : (n k.idx).isSome = true) (o : Nat) (ho : o < d) :
    ringLive d n (k.idx * d + o) = true := by
  simp only [ringLive, slot_div _ _ _ ho, h]

theorem ringSt_counter (n : Nat → Option Nat) (cr ws) (i : Nat) : ringSt (ringBase n) cr ws 0 i = (n i).map encRingN := rfl

theorem ringSt_setN (n : Nat → Option Nat) (cr ws) (i n' : Nat) :
    updSlot (ringSt (ringBase n) cr ws) 0 i (some (some (Val.int (n' : Int)))) = ringSt (ringBase (upd n i (some n'))) cr ws := by
  funext sid j
  by_cases h1 : sid = 0 <;> by_cases h2 : j = i <;> simp [ringSt, ringBase, updSlot, upd, h1, h2, encRingN]

/-- the literal `0` the code resets a counter to -/
theorem ringSt_reset (n : Nat → Option Nat) (cr ws) (i : Nat) :
    updSlot (ringSt (ringBase n) cr ws) 0 i (some (some (Val.int 0))) = ringSt (ringBase (upd n i (some 0))) cr ws :=
  ringSt_setN n cr ws i 0

theorem ringLive_upd (d : Nat) (n : Nat → Option Nat) (i n' : Nat) (h : (n i).isSome = true) :
    ringLive d (upd n i (some n')) = ringLive d n := by
  funext j
  unfold ringLive upd
  split
  · next he => rw [he, h]; rfl
  · rfl

theorem LinkH_roll_ring_next (w s : Nat) (hw : 0 < w) (hs : 0 < s) (st : RollSt) (k : Key) (v : Val) (n : Nat)
    (hn : st.n k.idx = some n)
    (hwf : ∀ o, o < density w s → ∀ n0, st.w (k.idx * density w s + o) = some n0 → n0 ≤ n) :
    runS (Gen.roll_ring_on_next (.int (s : Int)) (.int (density w s : Int)) (.int (w : Int)) (.next k v))
        { stores := repRoll (density w s) st, out := [] }
      = (.ok (), { stores := repRoll (density w s) (rollStep w s st (.next k v)).1, out := (rollStep w s st (.next k v)).2.1 }) := by
  have hd := density_pos w s hs hw
  generalize hdd : density w s = d at hd hwf ⊢
  have hlive : (st.n k.idx).isSome = true := by rw [hn]; rfl
  have hcr := ringLive_slot d st.n k hlive
  unfold Gen.roll_ring_on_next
  -- the join point of the `do` block mentions the counter that the first statement binds: once that is run it is taken out,
  -- so that `simp` does not go through the loop in it at every later step
  simp -zeta only [repRoll_eq, runS_getState_bind, ringSt_counter, hn, Option.map_some, encRingN]
  lift_lets
  intro jloop
  -- `jloop` is the code after `if n % stride == 0: …`: the delivery loop, then the counter
  have hloop : ∀ (ws : Nat → Option Nat) (o : List (Ev Val)), (∀ o, o < d → ∀ n0, ws (k.idx * d + o) = some n0 → n0 ≤ n) →
      runS (jloop ()) { stores := ringSt (ringBase st.n) (ringLive d st.n) ws, out := o }
        = (.ok (), { stores := ringSt (ringBase (upd st.n k.idx (some (n + 1)))) (ringLive d st.n) (rollDeliver w d k v n d ws).1,
                     out := o ++ (rollDeliver w d k v n d ws).2 }) := by
    intro ws o hp
    simp only [jloop, range_natV, liftM_ok, pure_bind]
    refine (runM_bind_ok (ring_loop _ _ _ (dDeliver w d k v n) (List.range d)
      (fun ws => ∀ o, o < d → ∀ n0, ws (k.idx * d + o) = some n0 → n0 ≤ n) (fun off _ ws hp => dDeliver_inv w d k v n off ws hp)
      (fun off ho ws s' hp hs' => deliver_body w d k v n _ _ hcr off (List.mem_range.mp ho) ws s' hp hs') ws _ hp rfl) _).trans ?_
    simp only [run_simps, PyAlg.int, ringSt_counter, hn, encRingN, add_natV1, ringSt_setN, rollDeliver_range]
  simp only [unmark_some, liftM_ok, pure_bind, PyAlg.int, mod_natV n s (Nat.ne_of_gt hs), eq_natV0, decide_eq_true_eq]
  by_cases hm : n % s = 0
  · have hoff : n / s % d < d := Nat.mod_lt _ hd
    have hp := ring_le_upd hwf (k.idx * d + n / s % d) (some n) fun _ h => Option.some.inj h ▸ Nat.le_refl _
    simp only [hm, run_simps, ↓reduceIte, floordiv_natV n s (Nat.ne_of_gt hs), mod_natV (n / s) d (Nat.ne_of_gt hd), Int.ofNat_eq_natCast,
      mul_natV, add_natV, toIdx_natV, idx_cons, ringSt_set_some n (hcr _ hoff), hloop _ _ hp, rollStep, hdd, hn, wk,
      ringLive_upd d st.n k.idx _ hlive]
  · simp only [hm, run_simps, ↓reduceIte, hloop _ _ hwf, rollStep, hdd, hn, ringLive_upd d st.n k.idx _ hlive]

theorem flush_run (d : Nat) (k : Key) {mk : Key → Ev Val} {f : Nat} {oev : Ev Val} {base cr}
    {body : Val → PUnit → HM Val (ForInStep PUnit)}
    (hbody : ∀ o ws s, s.stores = ringSt base cr ws → runS (body (Val.int (o : Nat)) PUnit.unit) s
      = (.ok (ForInStep.yield PUnit.unit),
          { s with stores := ringSt base cr (dFlush d k mk f o ws).1, out := s.out ++ (dFlush d k mk f o ws).2 }))
    (ws : Nat → Option Nat) (s : HSt Val) (hs : s.stores = ringSt base cr ws) :
    runS (do forIn ((List.range d).map fun i => Val.int (i : Nat)) PUnit.unit body; emitOuter oev) s
      = (.ok (), { s with stores := ringSt base cr (rollFlush d k mk f d ws).1, out := s.out ++ (rollFlush d k mk f d ws).2,
                          outer := s.outer ++ [oev] }) := by
  refine (runM_bind_ok (ring_loop _ _ _ (dFlush d k mk f) (List.range d) (fun _ => True) (fun _ _ _ _ => trivial)
    (fun o _ ws s _ hs => hbody o ws s hs) ws s trivial hs) _).trans ?_
  rw [rollFlush_range]
  rfl

/-- completion or error of the parent: the counter is reset, the open windows are flushed oldest first -/
theorem LinkH_roll_ring_flush (w s : Nat) (hw : 0 < w) (hs : 0 < s) (st : RollSt) (k : Key) (n : Nat) (hn : st.n k.idx = some n)
    (ev : Ev Val) (hev : ev = .done k ∨ ∃ e, ev = .err k e) :
    runS (Gen.roll_ring_on_next (.int (s : Int)) (.int (density w s : Int)) (.int (w : Int)) ev) { stores := repRoll (density w s) st, out := [] }
      = (.ok (), { stores := repRoll (density w s) (rollStep w s st ev).1, out := (rollStep w s st ev).2.1,
                   outer := (rollStep w s st ev).2.2.map OEv.toEv }) := by
  have hd := density_pos w s hs hw
  generalize hdd : density w s = d at hd ⊢
  have hlive : (st.n k.idx).isSome = true := by rw [hn]; rfl
  rcases hev with rfl | ⟨e, rfl⟩
  all_goals
    unfold Gen.roll_ring_on_next
    simp only [repRoll_eq, PyAlg.int, Int.ofNat_eq_natCast, toIdx_natV, pure_bind, idx_cons, runS_getState_bind, ringSt_counter, hn,
      Option.map_some, encRingN, runS_setState_bind, ringSt_reset, unmark_some, liftM_ok, add_natV, sub_natV1 (n + s) (Nat.add_pos_right n hs),
      floordiv_natV (n + s - 1) s (Nat.ne_of_gt hs), mod_natV ((n + s - 1) / s) d (Nat.ne_of_gt hd), range_natV, rollStep, hdd,
      Option.getD_some, List.map_cons, List.map_nil, OEv.toEv, ringLive_upd d st.n k.idx 0 hlive]
    refine flush_run d k (fun o ws s' hs' => ?_) st.w _ rfl
    -- the result side first: it names the event constructor, which the code applies to a bound key
    symm
    exact (flush_body d hd k _ _ _ _ (ringLive_slot d _ k hlive) o ws s' hs').symm

theorem LinkH_roll_ring_done (w s : Nat) (hw : 0 < w) (hs : 0 < s) (st : RollSt) (k : Key) (n : Nat)
    (hn : st.n k.idx = some n) :
    runS (Gen.roll_ring_on_next (.int (s : Int)) (.int (density w s : Int)) (.int (w : Int)) (.done k))
        { stores := repRoll (density w s) st, out := [] }
      = (.ok (), { stores := repRoll (density w s) (rollStep w s st (Ev.done k : Ev Val)).1, out := (rollStep w s st (Ev.done k : Ev Val)).2.1,
                   outer := (rollStep w s st (Ev.done k : Ev Val)).2.2.map OEv.toEv }) :=
  LinkH_roll_ring_flush w s hw hs st k n hn _ (Or.inl rfl)

theorem LinkH_roll_ring_err (w s : Nat) (hw : 0 < w) (hs : 0 < s) (st : RollSt) (k : Key) (e : Err) (n : Nat)
    (hn : st.n k.idx = some n) :
    runS (Gen.roll_ring_on_next (.int (s : Int)) (.int (density w s : Int)) (.int (w : Int)) (.err k e))
        { stores := repRoll (density w s) st, out := [] }
      = (.ok (), { stores := repRoll (density w s) (rollStep w s st (Ev.err k e : Ev Val)).1, out := (rollStep w s st (Ev.err k e : Ev Val)).2.1,
                   outer := (rollStep w s st (Ev.err k e : Ev Val)).2.2.map OEv.toEv }) :=
  LinkH_roll_ring_flush w s hw hs st k n hn _ (Or.inr ⟨e, rfl⟩)

/-- the `add_key` loop at the creation of a key: every ring slot of the key is added with the default -1 -/
theorem create_loop (d : Nat) (k : Key) (l : List Nat) (s : HSt Val) :
    runS (forIn (l.map (fun i => Val.int (i : Nat))) PUnit.unit (fun offset (_ : PUnit) => do
        let t26 ← (MonadLift.monadLift (PyAlg.mul (Val.int (Int.ofNat k.idx)) (Val.int (d : Int)) : Except Err Val) : HM Val Val)
        let t27 ← (MonadLift.monadLift (PyAlg.add t26 offset : Except Err Val) : HM Val Val)
        let t28 ← toIdx t27
        addKey 1 (t28 :: k) (some (Val.int (-1)))
        pure (ForInStep.yield PUnit.unit))) s
      = (.ok PUnit.unit, { s with stores := fun sid j =>
          if sid = 1 ∧ (j ∈ l.map (fun o => k.idx * d + o)) then some (some (Val.int (-1))) else s.stores sid j }) := by
  rw [List.forIn_map]
  refine runM_forIn l _ (fun _ => PUnit.unit)
    (fun p => { s with stores := fun sid j =>
      if sid = 1 ∧ (j ∈ p.map (fun o => k.idx * d + o)) then some (some (Val.int (-1))) else s.stores sid j })
    (s := s) rfl (by simp only [List.map_nil, List.not_mem_nil, and_false, if_false]) fun p a r _ => ?_
  simp only [run_simps, Int.ofNat_eq_natCast, mul_natV, add_natV, toIdx_natV, idx_cons, List.map_append,
    List.mem_append, List.mem_singleton]
  congr 2
  funext sid j
  by_cases h1 : sid = 1 <;> by_cases h2 : j = k.idx * d + a <;>
    simp only [updSlot, h1, h2, and_self, and_true, and_false, false_and, true_and, or_true, or_false, if_true, if_false]

theorem LinkH_roll_ring_create (w s : Nat) (hw : 0 < w) (hs : 0 < s) (st : RollSt) (k : Key) :
    runS (Gen.roll_ring_on_next (.int (s : Int)) (.int (density w s : Int)) (.int (w : Int)) (.create k))
        { stores := repRoll (density w s) st, out := [] }
      = (.ok (), { stores := repRoll (density w s) (rollStep w s st (Ev.create k : Ev Val)).1, out := (rollStep w s st (Ev.create k : Ev Val)).2.1,
                   outer := (rollStep w s st (Ev.create k : Ev Val)).2.2.map OEv.toEv }) := by
  have hd := density_pos w s hs hw
  generalize hdd : density w s = d at hd ⊢
  unfold Gen.roll_ring_on_next
  simp only [liftM, monadLift, run_simps, PyAlg.int, range_natV, create_loop, rollStep, hdd, repRoll_eq, idx_cons, ringSt_reset]
  congr 2
  funext sid j
  by_cases h1 : sid = 1
  · subst h1
    by_cases h2 : j / d = k.idx
    · simp only [mem_slots d hd, h2, and_self, ↓reduceIte, ringSt, ringLive, upd, Option.isSome_some, encRingW, clearSlots_ring hd]
    · simp only [mem_slots d hd, h2, and_false, ↓reduceIte, ringSt, ringLive, upd, clearSlots_ring hd]
      -- the two tests differ in their `Decidable` instance: one still mentions `ringLive`
      rfl
  · simp only [ringSt, h1, false_and, if_false]

/-- **`_roll` (roll with window ≠ stride), the ring of `density` window slots**: the handler generated from
rxsci/data/roll.py is the model's `rollStep`, on every event whose key is live, from every state in which the open windows
of that key started at or before its item counter (`hwf`; an invariant of the reachable states, `ringInv_wf`) -/
theorem LinkH_roll_ring (w s : Nat) (hw : 0 < w) (hs : 0 < s) (st : RollSt) (ev : Ev Val)
    (hlive : ∀ k, ((∃ v, ev = .next k v) ∨ ev = .done k ∨ (∃ e, ev = .err k e)) → st.n k.idx ≠ none)
    (hwf : ∀ k v n, ev = .next k v → st.n k.idx = some n →
      ∀ o, o < density w s → ∀ n0, st.w (k.idx * density w s + o) = some n0 → n0 ≤ n) :
    runH2 (Gen.roll_ring_on_next (.int (s : Int)) (.int (density w s : Int)) (.int (w : Int)) ev) (repRoll (density w s) st)
      = (.ok (), repRoll (density w s) (rollStep w s st ev).1, (rollStep w s st ev).2.1, (rollStep w s st ev).2.2.map OEv.toEv) := by
  rw [runH2_eq]
  cases ev with
  | create k => rw [LinkH_roll_ring_create w s hw hs st k]
  | next k v =>
    cases h : st.n k.idx with
    | none => exact absurd h (hlive k (Or.inl ⟨v, rfl⟩))
    | some n => rw [LinkH_roll_ring_next w s hw hs st k v n h (hwf k v n rfl h)]; simp only [rollStep, h, List.map_nil]
  | done k =>
    cases h : st.n k.idx with
    | none => exact absurd h (hlive k (Or.inr (Or.inl rfl)))
    | some n => rw [LinkH_roll_ring_done w s hw hs st k n h]
  | err k e =>
    cases h : st.n k.idx with
    | none => exact absurd h (hlive k (Or.inr (Or.inr ⟨e, rfl⟩)))
    | some n => rw [LinkH_roll_ring_err w s hw hs st k e n h]
  | fatal e => unfold Gen.roll_ring_on_next; simp only [run_simps, rollStep]

/-- the hypothesis `hwf` of `LinkH_roll_ring` holds in every state the simulation invariant of C05 (`RingInv`, established for
all reachable states by `rollRingSim`) describes -/
theorem ringInv_wf {w s : Nat} {live : List Key} {st : RollSt} {T : Key → Option (Nat × Slots)} {nm : Naming}
    (h : RingInv (α := Val) w s live st T nm) (k : Key) (hk : k ∈ live) (n : Nat) (hn : st.n k.idx = some n) :
    ∀ o, o < density w s → ∀ n0, st.w (k.idx * density w s + o) = some n0 → n0 ≤ n := by
  intro o ho n0 h0
  obtain ⟨n', sl, g1, _, ⟨xs, ob, c, hr⟩, g4, _⟩ := h.live_ k hk
  obtain rfl : n' = n := Option.some.inj (g1.symm.trans hn)
  -- the slot holds the start `j * s` of a window that is open after `n'` items
  obtain ⟨j, rfl, _, hopen⟩ := (hr.slots o ho n0).mp ((g4 o ho).symm.trans h0)
  exact Nat.le_of_lt (Nat.lt_of_lt_of_eq hopen.1 hr.hn.symm)

/-- the hypotheses of `LinkH_roll_ring` are satisfiable with an open window (window 3, stride 2: density 2; key 0 has seen one
item and its window 0 is open) -/
example :
    let st : RollSt := ⟨fun i => if i = 0 then some 1 else none, fun j => if j = 0 then some 0 else none⟩
    st.n (Key.idx [0]) ≠ none ∧
      (∀ o, o < density 3 2 → ∀ n0, st.w (Key.idx [0] * density 3 2 + o) = some n0 → n0 ≤ 1) ∧ st.w 0 = some 0 := by
  refine ⟨by simp [Key.idx], ?_, by simp⟩
  intro o _ n0
  by_cases h : o = 0 <;> simp [Key.idx, h]
  intro h0; omega

end Rx
