import RxGen.Kernels
import RxModel.Lemmas.Local
import RxModel.Lemmas.RunM
import RxModel.Lemmas.PyValLemmas
/-!
# C10 link theorems: the model's `distinct_until_changed` is the stage list generated from
`rxsci/operators/distinct_until_changed.py` (`scan(_distinct, seed=(None, None, None)) | filter | map`),
for a given key mapper and for `key_mapper=None`; and `Link_batch`: the stage list generated from `rxsci/data/batch.py`, whose
scan state is a Python tuple `(list, flag)`, emits item by item what the model's typed `batchG` emits (a state-map simulation).
-/
namespace Rx

/-- the accumulator of `distinct_until_changed`, with `key_mapper=None` read as the identity key mapper -/
theorem gen_duc_accumulate (km : Option D.F1) :
    Gen.duc_accumulate (V := Val) km = (fun acc i => do
        let k ← (km.getD fun v => .ok v) i
        if (acc.nth 0) = .none ∨ k ≠ acc.nth 2 then pure (Val.tup [.bool true, i, k])
        else pure (Val.tup [.bool false, i, k])) := by
  funext acc i
  cases km <;>
    simp only [Gen.duc_accumulate, Option.isSome_some, Option.isSome_none, Option.getD_some, Option.getD_none, if_true,
      Bool.false_eq_true, if_false, ok_bind, PyAlg.isNone, PyAlg.nth, PyAlg.eq, PyAlg.tup, PyAlg.bool, Bool.or_eq_true, beq_iff_eq,
      Bool.not_eq_true', beq_eq_false_iff_ne, ne_eq]

theorem gen_duc_changed : Gen.duc_changed (V := Val) = (fun i => .ok (.bool ((i.nth 0) = .bool true))) := by
  funext i
  simp only [Gen.duc_changed, PyAlg.isTrue, PyAlg.nth, PyAlg.bool, Val.isTrue, Bool.beq_eq_decide_eq]
  rfl

theorem gen_duc_item : Gen.duc_item (V := Val) = (fun i => .ok (i.nth 1)) := rfl

theorem Link_duc_opt (km : Option D.F1) : genPipe (Gen.duc_stages km) = D.duc (km.getD fun v => .ok v) := by
  simp only [genPipe, Gen.duc_stages, List.map, List.cons_append, List.nil_append, GStage.toStage, D.duc, Option.map,
    gen_duc_accumulate, gen_duc_changed, gen_duc_item]
  rfl

theorem Link_duc (key : D.F1) : genPipe (Gen.duc_stages (some key)) = D.duc key := Link_duc_opt (some key)

theorem Link_duc_none : genPipe (Gen.duc_stages none) = D.duc (fun v => .ok v) := Link_duc_opt none

/-- the scan state of the model's `batch` as the Python tuple the generated accumulator works on -/
def encB (s : List Val × Bool) : Val := Val.tup [Val.lst s.1, .bool s.2]

theorem gen_batch_accumulate (n : Nat) (s : List Val × Bool) (i : Val) :
    Gen.batch_accumulate (V := Val) (.int n) (encB s) i = .ok (encB (batchAcc n s i)) := by
  obtain ⟨b, f⟩ := s
  cases f <;>
    simp only [Gen.batch_accumulate, encB, PyAlg.nth, Val.nth_tup, List.getD_cons_zero, List.getD_cons_succ, PyAlg.isTrue, Val.isTrue,
      Val.bool.injEq, Bool.false_eq_true, if_false, if_true, PyAlg.lst, append_lst, ok_bind, len_lst, eq_natV, PyAlg.tup,
      PyAlg.bool, batchAcc, List.length_append, List.length_singleton, Bool.beq_eq_decide_eq, decide_true, decide_false, pure, Except.pure]

theorem gen_batch_terminate (s : List Val × Bool) :
    Gen.batch_terminate (V := Val) (encB s) = .ok (encB (batchTerm s)) := by
  obtain ⟨b, f⟩ := s
  cases f <;>
    simp only [Gen.batch_terminate, encB, PyAlg.nth, Val.nth_tup, List.getD_cons_zero, List.getD_cons_succ, PyAlg.isFalse, BEq.rfl, if_true,
      beq_iff_eq, Val.bool.injEq, Bool.true_eq_false, if_false, len_lst, PyAlg.int, ok_bind, lt_int, Int.natCast_pos, PyAlg.tup, PyAlg.bool,
      batchTerm, pure, Except.pure, Bool.not_false, Bool.not_true, Bool.true_and, Bool.false_and]

theorem gen_batch_full (s : List Val × Bool) : Gen.batch_full (V := Val) (encB s) = .ok (.bool s.2) := by
  obtain ⟨b, f⟩ := s
  cases f <;> rfl

/-- the first of the three local operators of the generated stage list of `batch(n)` (`gen_batch_stages_local`) -/
def genBatchScan (n : Nat) : LocalOp Val Val :=
  scanOp (Gen.batch_accumulate (V := Val) (.int n)) (encB ([], false)) false
    (some (fun v => match Gen.batch_terminate (V := Val) v with | .ok x => x | .error _ => .none))

theorem gen_batch_stages_local (n : Nat) :
    (Gen.batch_stages (V := Val) (.int n)).map GStage.localOp
      = [genBatchScan n, filterOp (Gen.batch_full (V := Val)) Val.truthy, mapOp (Gen.batch_items (V := Val))] := rfl

/-- the three composed as a pipeline composes them: `scan | filter | map` -/
def genBatchL (n : Nat) : LocalOp Val Val :=
  compLocal (compLocal (genBatchScan n) (filterOp (Gen.batch_full (V := Val)) Val.truthy)) (mapOp (Gen.batch_items (V := Val)))

/-- the model's `batch(n)` (the generic `batchG` with lists wrapped as values): the multiplexed side of `D.batch` -/
def modelBatchL (n : Nat) : LocalOp Val Val := compLocal (batchG n) (mapOp (fun l => Except.ok (Val.lst l)))

/-- the state type that `compLocal` nests for `modelBatchL n` -/
abbrev MSt := ((Option (List Val × Bool) × Unit) × Unit) × Unit
/-- the state type that `compLocal` nests for `genBatchL n` -/
abbrev GSt := (Option Val × Unit) × Unit
/-- states correspond: the model's typed scan state, encoded as the Python tuple, is the generated operator's scan state -/
def phiB (t : MSt) : GSt := ((t.1.1.1.map encB, ()), ())

theorem getD_map_encB (s : Option (List Val × Bool)) (d : List Val × Bool) :
    (s.map encB).getD (encB d) = encB (s.getD d) := by cases s <;> rfl

theorem Link_batch_sim (n : Nat) (xs : List Val) (t : MSt) :
    runRaw (σ := GSt) (genBatchL n).next (genBatchL n).fin (phiB t) xs
      = runRaw (σ := MSt) (modelBatchL n).next (modelBatchL n).fin t xs := by
  apply runRaw_map_state (σ := GSt) (τ := MSt) (genBatchL n).next (genBatchL n).fin (modelBatchL n).next (modelBatchL n).fin phiB
  · intro t x
    obtain ⟨⟨⟨s, u1⟩, u2⟩, u3⟩ := t
    simp only [genBatchL, genBatchScan, modelBatchL, batchG, compLocal, scanOp, scanNext, filterOp, mapOp, feedL, phiB,
      getD_map_encB, gen_batch_accumulate, Bool.false_eq_true, if_false, gen_batch_full, truthy_bool, id]
    cases (batchAcc n (s.getD ([], false)) x).2 <;> rfl
  · intro t
    obtain ⟨⟨⟨s, u1⟩, u2⟩, u3⟩ := t
    simp only [genBatchL, genBatchScan, modelBatchL, batchG, compLocal, scanOp, scanFin, filterOp, mapOp, feedL, phiB,
      getD_map_encB, gen_batch_terminate, Bool.false_eq_true, if_false, gen_batch_full, truthy_bool, id]
    cases (batchTerm (s.getD ([], false))).2 <;> rfl

/-- **Link_batch**: for every batch size and every item sequence the stage list generated from `rxsci/data/batch.py`
(`scan(_batch, seed=([], False), terminator=_terminate) | filter | map`, run as the model runs stage lists) emits, item by item
and at completion, exactly what the model's `batch(n)` emits -/
theorem Link_batch (n : Nat) (xs : List Val) :
    (genBatchL n).runL (genBatchL n).init xs = (modelBatchL n).runL (modelBatchL n).init xs :=
  Link_batch_sim n xs (((none, ()), ()), ())
end Rx
