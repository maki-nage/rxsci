import RxModel.Lemmas.Val
import RxModel.Props.C09
import RxModel.Lemmas.Batch
/-!
# C10 — per-key sequence operators match their list semantics

One theorem per operator, about the per-key logic (`LocalOp`) the multiplexed operator runs for one
key lifetime; `L.outL xs` is everything the key emits, in order.  `distinct_until_changed` and `batch`
are pipelines in the code: their `LocalOp` is the composition the code builds (`(D.duc _).loc`,
`batchG n`).  `sort` collects the items and maps `sorted` over the list: `C10_sort` is about that
list function (`sortBy`), not about an operator.
The plain counterparts (RxPY `first/last/take`) agree with these by `C01_stage_first/_last/_take`.
Every statement is for all item lists and all parameter values.

Most proofs give what the operator emits from ANY state as a function `spec s xs` and check the two
equations of the run (`LocalOp.outL_eq_spec`); the statement is `spec` at the initial state.
-/
namespace Rx

theorem C10_first {α} (xs : List α) : (firstOp (α := α)).outL xs = (xs.head?.toList).map LOut.item :=
  firstOp.outL_eq_spec (fun (s : Bool) xs => if s then [] else (xs.head?.toList).map LOut.item)
    (fun s => by cases s <;> rfl) (fun s x xs => by cases s <;> rfl) xs

theorem C10_last {α} (xs : List α) : (lastOp (α := α)).outL xs = (xs.getLast?.toList).map LOut.item := by
  rw [lastOp.outL_eq_spec (fun s xs => ((xs.getLast?.or s).toList).map LOut.item) (fun s => by cases s <;> rfl)
    (fun s x xs => by simp [lastOp, List.getLast?_cons]; cases xs.getLast? <;> rfl) xs]
  simp [lastOp]

theorem C10_take {α} (n : Nat) (xs : List α) : (takeOp (α := α) n).outL xs = (xs.take n).map LOut.item :=
  (takeOp n).outL_eq_spec (fun c xs => (xs.take c).map LOut.item) (fun (c : Nat) => by simp [takeOp])
    (fun (c : Nat) x xs => by cases c <;> simp [takeOp]) xs

/-! ### distinct: the first occurrence of each key value -/

theorem C10_distinct {α κ} [DecidableEq κ] (f : α → κ) (xs : List α) :
    (distinctOp (fun x => .ok (f x))).outL xs =
      (xs.eraseDupsBy (fun a b => f a == f b)).map LOut.item := by
  -- from the set `S` of keys seen: the items with a key in `S` are dropped first
  rw [(distinctOp (fun x => .ok (f x))).outL_eq_spec
    (fun (S : List κ) xs => ((xs.filter (fun x => f x ∉ S)).eraseDupsBy (fun a b => f a == f b)).map LOut.item)
    (fun _ => rfl) ?_ xs]
  · simp [distinctOp, List.filter_eq_self.mpr]
  · intro (S : List κ) x xs
    by_cases hx : f x ∈ S
    · simp [distinctOp, hx]
    · simp only [distinctOp, hx, if_false, List.filter_cons, not_false_eq_true, decide_true, if_true, List.eraseDupsBy_cons,
        List.map_cons, List.singleton_append, List.filter_filter]
      congr 3
      apply List.filter_congr
      intro y _
      simp only [List.mem_cons, not_or, beq_eq_false_iff_ne, ne_eq, Bool.decide_and]

/-! ### lag: pairs (item n steps back, or the first item; item)

`zipWith mk (replicate n x0 ++ xs) xs`: the stream shifted right by `n`, padded with its first item. -/

theorem C10_lag1 {α β} (mk : α → α → β) (xs : List α) :
    (lag1Op mk).outL xs = (List.zipWith mk (xs.head?.toList ++ xs) xs).map LOut.item :=
  (lag1Op mk).outL_eq_spec
    (fun (s : Option α) xs => (List.zipWith mk ((s.or xs.head?).toList ++ xs) xs).map LOut.item)
    (fun _ => by simp [lag1Op]) (fun (s : Option α) x xs => by cases s <;> simp [lag1Op]) xs

/-- `_lag.on_next` as a function on `List α`: under `(lagOp n mk).next` the state type reads
`(lagOp n mk).σ`, and `rw` with the equations of the run fails -/
def lagNext {α β} (n : Nat) (mk : α → α → β) (q : List α) (x : α) : List α × List (LOut β) :=
  (if (q ++ [x]).length > n then (q ++ [x]).tail else q ++ [x], [LOut.item (mk ((q ++ [x]).headD x) x)])

/-- the `_lag` deque `q`, still `k` items short of `n`: the pairs are those of a full deque that
holds `k` copies of the first item `h` of the stream in front of `q` -/
theorem lag_from {α β} (n : Nat) (mk : α → α → β) (xs : List α) : ∀ (q : List α) (k : Nat) (h : α),
    q.length + k = n → (k = 0 ∨ (q ++ xs).head? = some h) →
    outRaw (lagNext n mk) (fun _ => []) q xs =
      (List.zipWith mk (List.replicate k h ++ (q ++ xs)) xs).map LOut.item := by
  induction xs with
  | nil => intro q k h _ _; rw [outRaw_nil, List.zipWith_nil_right]; rfl
  | cons x xs ih =>
    intro q k h hn hh
    have hl : (q ++ [x]).length = q.length + 1 := List.length_append
    rw [outRaw_cons, lagNext, hl]
    cases k with
    | zero =>
      -- the deque is full: `x` is paired with its head, which then leaves
      have hc : q ++ x :: xs = (q ++ [x]).headD x :: ((q ++ [x]).tail ++ xs) := by cases q <;> simp
      rw [if_pos (Nat.lt_succ_of_le (Nat.le_of_eq hn.symm)),
        ih _ 0 h (by rw [List.length_tail, hl]; exact hn) (Or.inl rfl), hc]
      rfl
    | succ k =>
      -- still filling: the head of the deque is the first item `h` of the stream, and stays
      have hh' : (q ++ [x] ++ xs).head? = some h := by
        rw [List.append_assoc]; exact hh.resolve_left (Nat.succ_ne_zero k)
      have hx : (q ++ [x]).headD x = h := by cases q <;> exact Option.some.inj hh'
      rw [if_neg (Nat.not_lt.mpr (hn ▸ Nat.add_le_add_left (Nat.le_add_left 1 k) _)), hx,
        ih _ k h (by rw [hl, Nat.add_right_comm]; exact hn) (Or.inr hh'), List.replicate_succ, List.append_assoc]
      rfl

/-- **lag(n)** for every `n`: the stream shifted right by `n` and padded with its first item, paired
with the stream itself — `(item n steps back, or the first item; item)` -/
theorem C10_lag {α β} (n : Nat) (mk : α → α → β) (xs : List α) :
    (lagOp n mk).outL xs =
      match xs with
      | [] => []
      | x0 :: _ => (List.zipWith mk (List.replicate n x0 ++ xs) xs).map LOut.item := by
  cases xs with
  | nil => rfl
  | cons x0 xs => exact lag_from n mk (x0 :: xs) [] n x0 (Nat.zero_add n) (Or.inr rfl)

/-- the right-hand side for `lag(2)` on four items -/
example : (List.zipWith (fun a b => (a, b)) (List.replicate 2 10 ++ [10, 11, 12, 13]) [10, 11, 12, 13]) =
    [(10, 10), (10, 11), (10, 12), (11, 13)] := rfl

/-! ### distinct_until_changed: one item per run of equal key values (the first of the run)

The operator is the pipeline `scan | filter | map` of rxsci/operators/distinct_until_changed.py
(`D.duc`, Derived.lean), over `Val` tuples `(flag, item, key)`, exactly as the code composes it.
The scan emits its running tuples (`C09_stream`), `filter` and `map` act on them as `List.filter`
and `List.map`; what is left is a fact about lists (`duc_list`). -/

def dedupGo {α κ} [DecidableEq κ] (k : α → κ) : κ → List α → List α
  | _, [] => []
  | prev, y :: ys => if k y ≠ prev then y :: dedupGo k (k y) ys else dedupGo k (k y) ys

/-- the first item of every maximal run of items with equal key -/
def dedupAdj {α κ} [DecidableEq κ] (k : α → κ) : List α → List α
  | [] => []
  | x :: xs => x :: dedupGo k (k x) xs

abbrev ducL (k : Val → Val) : LocalOp Val Val := (D.duc (fun v => .ok (k v))).loc

/-- the accumulator of `D.duc` for a key function that does not raise: (key changed, item, key) -/
def ducAcc (k : Val → Val) (acc x : Val) : Val :=
  Val.tup [.bool (acc.nth 0 = .none ∨ k x ≠ acc.nth 2), x, k x]

theorem ducAcc_tup (k : Val → Val) (f x' c x : Val) :
    ducAcc k (Val.tup [f, x', c]) x = Val.tup [.bool (f = .none ∨ k x ≠ c), x, k x] := rfl

theorem duc_list (k : Val → Val) : ∀ (xs : List Val) (b : Bool) (x' c : Val),
    ((scanl' (ducAcc k) (Val.tup [.bool b, x', c]) xs).filter (fun v => v.nth 0 = .bool true)).map (fun v => v.nth 1) =
      dedupGo k c xs
  | [], _, _, _ => rfl
  | x :: xs, b, x', c => by
    by_cases hk : k x = c <;>
      simp [scanl', ducAcc_tup, dedupGo, Val.nth_tup_zero, Val.nth_tup_one, hk, duc_list k xs]

/-- **distinct_until_changed** with any key function (`None`-valued keys included): the first item
of every run of equal key values, nothing else, in order -/
theorem C10_distinct_until_changed (k : Val → Val) (xs : List Val) :
    (ducL k).outL xs = (dedupAdj k xs).map LOut.item := by
  have hL : ducL k = compLocal (scanOp (fun a x => .ok (ducAcc k a x)) (Val.tup [.none, .none, .none]) false none)
      (compLocal (filterOp (fun i => .ok (.bool (i.nth 0 = .bool true))) Val.truthy)
        (compLocal (mapOp (fun i => .ok (i.nth 1))) idLocal)) := by
    simp only [ducL, D.duc, Pipe.ofList, Pipe.loc, Stage.loc, D.scan, D.filter, D.map]
    congr 2
    funext acc x
    by_cases h : acc.nth 0 = .none ∨ k x ≠ acc.nth 2 <;> simp [ducAcc, h, bind, Except.bind, pure, Except.pure]
  rw [hL, LocalOp.outL_comp, LocalOp.fed_init_comp, LocalOp.fed_init_comp, C09_stream, filterOp_fed_items, mapOp_fed_items,
    idLocal_fed]
  cases xs with
  | nil => rfl
  | cons x xs =>
    -- the flag of the seed is `None`: the first item is kept whatever its key
    rw [scanl', ducAcc_tup, dedupAdj, ← duc_list k xs true x (k x)]
    rfl

example : dedupAdj (fun (n : Nat) => n / 2) [2, 3, 4, 5, 2, 2, 7] = [2, 4, 2, 7] := rfl

theorem C10_pad_start {α} (n : Nat) (v : Option α) (xs : List α) :
    (padStartOp n v).outL xs =
      (match xs with
       | [] => []
       | x :: _ => List.replicate n (v.getD x) ++ xs).map LOut.item := by
  -- `have`: the `match` in `spec` is elaborated too late for `exact`
  have h := (padStartOp n v).outL_eq_spec
    (fun (s : Bool) xs => if s then xs.map LOut.item else
      (match xs with
       | [] => []
       | x :: _ => List.replicate n (v.getD x) ++ xs).map LOut.item)
    (fun s => by cases s <;> rfl) (fun s x xs => by cases s <;> simp [padStartOp]) xs
  exact h

theorem C10_pad_end {α} (n : Nat) (v : Option α) (xs : List α) :
    (padEndOp n v).outL xs =
      (match xs.getLast? with
       | none => []
       | some l => xs ++ List.replicate n (v.getD l)).map LOut.item := by
  rw [(padEndOp n v).outL_eq_spec (fun s xs => xs.map .item ++ (padEndOp n v).fin (xs.getLast?.or s))
    (fun s => by cases s <;> rfl)
    (fun s x xs => by simp [padEndOp, List.getLast?_cons]; cases xs.getLast? <;> rfl) xs]
  cases h : xs.getLast? with
  | none => simp [List.getLast?_eq_none_iff.mp h, padEndOp]
  | some l => simp [padEndOp, List.map_replicate]

theorem C10_start_with {α} (padding : List α) (xs : List α) :
    (startWithOp padding).outL xs =
      (match xs with
       | [] => []
       | _ :: _ => padding ++ xs).map LOut.item := by
  have h := (startWithOp padding).outL_eq_spec
    (fun (s : Bool) xs => if s then xs.map LOut.item else
      (match xs with
       | [] => []
       | _ :: _ => padding ++ xs).map LOut.item)
    (fun s => by cases s <;> rfl) (fun s x xs => by cases s <;> simp [startWithOp]) xs
  exact h

/-! ### sort: a stably ordered permutation

`sortBy key lt reverse` is `sorted(items, key=key, reverse=reverse)` of rxsci/data/sort.py
(Python's sort being stable, also with `reverse=True`).  `lt` is any strict weak order on keys:
the induced "not greater" relation is transitive and total. -/

theorem C10_sort {α κ} (key : α → κ) (lt : κ → κ → Bool) (reverse : Bool) (xs : List α)
    (trans : ∀ a b c : κ, !(lt b a) → !(lt c b) → !(lt c a))
    (total : ∀ a b : κ, !(lt b a) || !(lt a b)) :
    (sortBy key lt reverse xs).Perm xs ∧
    (sortBy key lt reverse xs).Pairwise
      (fun a b => if reverse then !(lt (key a) (key b)) else !(lt (key b) (key a))) ∧
    -- stable: two items that were in order and tie (or are ordered) keep their relative order
    (∀ a b, (if reverse then !(lt (key a) (key b)) else !(lt (key b) (key a))) = true →
      [a, b].Sublist xs → [a, b].Sublist (sortBy key lt reverse xs)) := by
  -- `mergeSort` asks for a transitive and total comparison; the descending one is the ascending one read backwards
  unfold sortBy
  refine ⟨List.mergeSort_perm _ _, List.pairwise_mergeSort ?t ?o xs, fun a b => List.pair_sublist_mergeSort ?t ?o⟩
  · intro a b c
    cases reverse
    · exact trans (key a) (key b) (key c)
    · exact fun h1 h2 => trans (key c) (key b) (key a) h2 h1
  · intro a b
    cases reverse
    · exact total (key a) (key b)
    · exact total (key b) (key a)

/-- batch(n), the clause of the statement at full strength, on the operator as the code composes it -/
theorem C10_batch {α : Type} (n : Nat) (hn : 0 < n) (xs : List α) :
    (items ((batchG n).outL xs)).flatten = xs ∧
    (∀ c ∈ items ((batchG n).outL xs), c ≠ [] ∧ c.length ≤ n) ∧
    (∀ c ∈ (items ((batchG n).outL xs)).dropLast, c.length = n) := by
  rw [batchG_items n hn xs]
  exact chunksOf_spec n hn xs

/-- the number of batches is ⌈len/n⌉: none for an empty source, no duplicate or empty final batch when the
length is a multiple of `n` -/
theorem C10_batch_count {α : Type} (n : Nat) (hn : 0 < n) (xs : List α) :
    (items ((batchG n).outL xs)).length = (xs.length + n - 1) / n := by
  rw [batchG_items n hn xs]
  exact chunksOf_length n hn xs

example : items ((batchG 3).outL [1,2,3,4,5,6]) = [[1,2,3],[4,5,6]] := rfl

end Rx
