import RxGen.Handlers
import RxModel.PyVal
import RxModel.Split
/-!
# C03 / C13 link theorem: the `on_next` handler of `demux_mux_observable` (rxsci/operators/multiplex.py), generated from the
source, is the model's `demuxEv`: items go up one key level, an inner `OnErrorMux` becomes `observer.on_error` (this is where an
unhandled mux error surfaces), inner creations and completions are dropped
-/
namespace Rx
open HM

theorem LinkH_demux (stores : Nat → Nat → Slot Val) (ev : Ev Val) (hkey : ∀ v, ev ≠ .next [] v) :
    runH (Gen.demux_mux_on_next ev) stores = (.ok (), stores, demuxEv ev) := by
  cases ev with
  | next k v =>
    cases k with
    | nil => exact absurd rfl (hkey v)
    | cons i k => rfl
  | _ => rfl

end Rx
