import RxModel.Lemmas.Batch
/-!
# C20 — parquet dump/load round-trips rows for every row count and batch size
(and the `batch` clause of C10)

`batchG n` is `batch(n)` as the code composes it (scan | filter | map); `chunksOf n` is the list
definition of the statement.  pyarrow's writer/reader are a library contract (the writer appends
the rows of each record, the reader yields all rows in order).
-/
namespace Rx

/-- **the statement's characterisation of the chunks**, for every row count `m`: `chunksOf_spec` with
the length named -/
theorem C20_chunks_spec {α} (n : Nat) (hn : 0 < n) : ∀ (m : Nat) (xs : List α), xs.length = m →
    (chunksOf n xs).flatten = xs ∧ (∀ c ∈ chunksOf n xs, c ≠ [] ∧ c.length ≤ n) ∧
    (∀ c ∈ (chunksOf n xs).dropLast, c.length = n) :=
  fun _ xs _ => chunksOf_spec n hn xs

/-- **batch(n)** (clause of C10): consecutive chunks of exactly `n` items plus one final non-empty
shorter chunk, whose concatenation is the input; nothing for an empty sequence; `n = 1` included -/
theorem C20_batch {α : Type} (n : Nat) (hn : 0 < n) (xs : List α) :
    items ((batchG n).outL xs) = chunksOf n xs := batchG_items n hn xs

/-- with fresh column buffers per record, the file holds the concatenation of the batches -/
theorem parquetFileRows_fresh {α} : ∀ (bs : List (List α)) (buf : List α),
    parquetFileRows true buf bs = bs.flatten
  | [], _ => rfl
  | b :: bs, _ => congrArg (b ++ ·) (parquetFileRows_fresh bs _)

/-- **C20**: for every row list, every dump batch size `n ≥ 1` and every load batch size `b ≥ 1`, the
file contains exactly the source rows, once each and in order, and loading returns them equal -/
theorem C20_rows {α} (n b : Nat) (hn : 0 < n) (hb : 0 < b) (rows : List α) :
    parquetDump n rows = rows ∧ parquetLoad b (parquetDump n rows) = rows := by
  have h1 : parquetDump n rows = rows := (parquetFileRows_fresh _ _).trans (chunksOf_flatten n hn rows)
  exact ⟨h1, h1.symm ▸ chunksOf_flatten b hb rows⟩

theorem parquetRecords_fresh {α} : ∀ (bs : List (List α)) (buf : List α), parquetRecords true buf bs = bs
  | [], _ => rfl
  | b :: bs, _ => congrArg (b :: ·) (parquetRecords_fresh bs _)

theorem rowGroups_flatten {α} (rg : Option Nat) (hrg : ∀ k, rg = some k → 0 < k) (records : List (List α)) :
    (rowGroups rg records).flatten = records.flatten := by
  cases rg with
  | none => exact List.flatten_filter_not_isEmpty
  | some k =>
    show (records.flatMap (chunksOf k)).flatten = _
    induction records with
    | nil => rfl
    | cons r rs ih =>
      rw [List.flatMap_cons, List.flatten_append, ih, chunksOf_flatten k (hrg k rfl) r, List.flatten_cons]

/-- **C20, over the operators as the code composes them**: the records handed to the writer are the
batches computed by the composed `batch(n)` operator; whatever the row count, the dump batch size,
the row-group size and the load batch size, the row groups of the file hold the source rows once
each and in order, and the loader returns them -/
theorem C20_file {α : Type} (n b : Nat) (rg : Option Nat) (hn : 0 < n) (hb : 0 < b)
    (hrg : ∀ k, rg = some k → 0 < k) (rows : List α) :
    let records := parquetRecords true [] (items ((batchG n).outL rows))
    (rowGroups rg records).flatten = rows ∧ parquetLoad b records.flatten = rows ∧
    (rg = none → rowGroups rg records = chunksOf n rows) := by
  have hrec : parquetRecords true [] (items ((batchG n).outL rows)) = chunksOf n rows := by
    rw [parquetRecords_fresh, C20_batch n hn]
  have hflat := chunksOf_flatten n hn rows
  simp only [hrec]
  refine ⟨by rw [rowGroups_flatten rg hrg, hflat], ?_, ?_⟩
  · rw [hflat]; exact chunksOf_flatten b hb rows
  · intro h
    subst h
    apply List.filter_eq_self.mpr
    intro c hc
    cases c with
    | nil => exact absurd rfl ((chunksOf_spec n hn rows).2.1 [] hc).1
    | cons _ _ => rfl

/-- what the unrepaired `create_record` (buffers created once) wrote: the witness of the defect -/
example : parquetFileRows false [] (chunksOf 2 [0, 1, 2, 3, 4]) = [0, 1, 0, 1, 2, 3, 0, 1, 2, 3, 4] := rfl
example : items ((batchG 3).outL [0, 1, 2, 3, 4, 5]) = [[0, 1, 2], [3, 4, 5]] := rfl
example : items ((batchG 1).outL [7, 8]) = [[7], [8]] := rfl

end Rx
