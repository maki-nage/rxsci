import RxGen.Text
import RxModel.Lemmas.PyTextLemmas
import RxModel.Lemmas.Framing
/-!
# C15 link theorems: the closures of `line.unframe` and `line.frame`, generated from rxsci/framing/line.py into the monad `TM`
(RxModel/PyText.lean: str = List Char, `s.split(c)` = `splitC c s`, indexing with negative indices and IndexError, slices,
`x or y`), ARE the model's `lineFeed` / `lineFinish` / `lineFrame` (Framing.lean) — the functions `C15_line`, `C15_line_rechunk`
and, through the csv and json loaders, C18 and C19 are about.  Likewise `on_next` of `length_prefix.unframe` / `length_prefix.frame`
(rxsci/framing/length_prefix.py) and `lpFeed` / `lpFrame`.
-/
namespace Rx

/-- `line.unframe.on_next`, generated from rxsci/framing/line.py, is the model's `lineFeed`: the lines emitted for the chunk and the
new carry -/
theorem LinkT_unframe_next (acc chunk : List Char) (out : List (List Char)) (rest : Nat → List Char) (c : Bool) :
    TM.run (Gen.line_unframe_on_next chunk) { vars := fun j => if j = 0 then acc else rest j, out := out, completed := c }
      = (.ok (), { vars := fun j => if j = 0 then (lineFeed acc chunk).2 else rest j, out := out ++ (lineFeed acc chunk).1,
                   completed := c }) := by
  simp only [Gen.line_unframe_on_next, lineFeed, lineFeedG, PyStr.split]
  cases hs : splitC '\n' chunk with
  | nil => exact absurd hs (splitC_ne_nil _ _)
  | cons l0 rest' =>
    simp only [run_simps, PyStr.getItem_zero, PyStr.setItem_zero, PyStr.getItem_neg_one_cons _ _ [],
      PyStr.orElse_nil, PyStr.slice_zero_neg_one, lastP, ite_ite_else]

/-- `line.unframe.on_completed`: a non-empty carry is delivered once, then completion -/
theorem LinkT_unframe_completed (acc : List Char) (out : List (List Char)) (rest : Nat → List Char) :
    TM.run Gen.line_unframe_on_completed { vars := fun j => if j = 0 then acc else rest j, out := out }
      = (.ok (), { vars := fun j => if j = 0 then acc else rest j, out := out ++ lineFinish acc, completed := true }) := by
  simp only [Gen.line_unframe_on_completed, run_simps, lineFinish, lineFinishG]
  split <;> simp only [run_simps]

/-- `line.frame.on_next`: the item followed by a line feed -/
theorem LinkT_frame_next (i : List Char) (s : TSt) :
    TM.run (Gen.line_frame_on_next i) s = (.ok (), { s with out := s.out ++ [lineFrame i] }) := by
  simp only [Gen.line_frame_on_next, run_simps, PyStr.join, lineFrame, List.intercalate, List.intersperse, List.flatten_cons,
    List.flatten_nil]

/-- the closure starts with an empty carry -/
theorem LinkT_unframe_init : Gen.line_unframe_init = [[]] := rfl

/-- how the subscription drives the closures: `on_next` for every chunk, then `on_completed` -/
def unframeAll : List (List Char) → TM Unit
  | [] => Gen.line_unframe_on_completed
  | c :: cs => do Gen.line_unframe_on_next c; unframeAll cs

/-- a whole run of the generated closures over a list of chunks is the model's `lineRun` (whose output is the list of lines of
the concatenated text for every chunking: `C15_line`, `C15_line_rechunk`) -/
theorem LinkT_unframe_run (chunks : List (List Char)) (acc : List Char) (out : List (List Char)) (rest : Nat → List Char) :
    TM.run (unframeAll chunks) { vars := fun j => if j = 0 then acc else rest j, out := out }
      = (.ok (), { vars := fun j => if j = 0 then (chunks.foldl (fun a c => (lineFeed a c).2) acc) else rest j,
                   out := out ++ (lineRun acc chunks).1.flatten ++ (lineRun acc chunks).2, completed := true }) := by
  induction chunks generalizing acc out with
  | nil =>
    rw [unframeAll, LinkT_unframe_completed]
    simp only [lineRun, lineRunG, lineFinish, List.flatten_nil, List.append_nil, List.foldl_nil]
  | cons c cs ih =>
    rw [unframeAll]
    refine ((runM_bind_ok (LinkT_unframe_next acc c out rest false) fun _ => unframeAll cs).trans
      (ih (lineFeed acc c).2 (out ++ (lineFeed acc c).1))).trans ?_
    simp only [lineRun, lineRunG, lineFeed, List.flatten_cons, List.append_assoc, List.foldl_cons]


/-! ## `length_prefix.unframe`: a `BytesIO` cursor and a `while` loop (fuel `bio_len + 1`: every continuing pass consumes at least
`prefix_size ≥ 1` bytes) -/

/-- the `while` loop of `length_prefix.unframe.on_next` from offset `off` of the buffer `B` (cursor at `off`): it delivers the
frames `lpParse` finds in `B.drop off` and stops at the offset where the carried-over bytes start -/
theorem lp_loop (big : Bool) (p : Nat) (hp : 0 < p) (B : List Nat) :
    ∀ (fuel off : Nat) (s : BSt), off ≤ B.length → B.length - off < fuel →
      ∃ off' pos', runB (Gen.lp_unframe_loop1 p big B.length fuel off ⟨B, off⟩) s
          = (.ok (off', ⟨B, pos'⟩), { s with out := s.out ++ (lpParse big p (B.drop off)).1 })
        ∧ B.drop off' = (lpParse big p (B.drop off)).2 := by
  intro fuel
  induction fuel with
  | zero => exact fun off s _ h => absurd h (Nat.not_lt_zero _)
  | succ fuel ih =>
    intro off s hoff hfuel
    rw [Gen.lp_unframe_loop1, lpParse]
    -- the code computes `bio_len - offset >= n` in `int`
    simp only [Int.ofNat_eq_natCast, ← Int.natCast_sub hoff, ge_iff_le, Int.ofNat_le, List.length_drop, hp, true_and]
    by_cases h1 : p ≤ B.length - off
    · simp only [h1, if_true, dite_true, BIO.read_of_le B off p h1, ← Int.natCast_sub h1, Int.ofNat_le]
      generalize fromBytes big (List.take p (List.drop off B)) = size
      by_cases h2 : size ≤ B.length - off - p
      · have hps : p + size ≤ B.length - off := Nat.add_le_of_le_sub' h1 h2
        have a1 : off + (p + size) ≤ B.length := Nat.add_le_of_le_sub' hoff hps
        have a2 : B.length - (off + (p + size)) < fuel := Nat.sub_sub .. ▸ Nat.lt_of_lt_of_le
          (Nat.sub_lt (Nat.lt_of_lt_of_le hp h1) (Nat.lt_add_right size hp)) (Nat.le_of_lt_succ hfuel)
        have a3 : size ≤ B.length - (off + p) := Nat.sub_sub .. ▸ h2
        obtain ⟨off', pos', h3, h4⟩ := ih (off + (p + size)) { s with out := s.out ++ [((B.drop off).drop p).take size] } a1 a2
        rw [← List.drop_drop] at h3 h4
        refine ⟨off', pos', ?_, ?_⟩
        · simp only [h2, dite_true, run_simps, BIO.read_of_le B (off + p) size a3]
          rw [Nat.add_comm size p, Nat.add_assoc, ← List.drop_drop]
          simp only [h3, List.append_assoc, List.singleton_append]
        · simp only [h2, dite_true, h4]
      · simp only [h2, dite_false, run_simps]
        exact ⟨off, off + p, rfl, rfl⟩
    · simp only [h1, dite_false, run_simps]
      exact ⟨off, off, rfl, rfl⟩

/-- **`length_prefix.unframe.on_next`**, generated from rxsci/framing/length_prefix.py, is the model's `lpFeed`: the frames
delivered for the chunk and the bytes carried over — for every prefix size ≥ 1 and both byte orders -/
theorem LinkB_lp_next (big : Bool) (p : Nat) (hp : 0 < p) (acc chunk : List Nat) (out : List (List Nat)) (rest : Nat → List Nat)
    (c : Bool) :
    BM.run (Gen.lp_unframe_on_next p big chunk) { vars := fun j => if j = 0 then acc else rest j, out := out, completed := c }
      = (.ok (), { vars := fun j => if j = 0 then (lpFeed big p acc chunk).2 else rest j, out := out ++ (lpFeed big p acc chunk).1,
                   completed := c }) := by
  obtain ⟨off', pos', h1, h2⟩ := lp_loop big p hp (acc ++ chunk) ((acc ++ chunk).length + 1) 0
    { vars := fun j => if j = 0 then acc else rest j, out := out, completed := c } (Nat.zero_le _) (Nat.lt_succ_self _)
  simp only [Gen.lp_unframe_on_next, run_simps, BIO.len, BIO.seek, BIO.write_write_data, h1, BIO.readAll, h2, lpFeed, List.drop_zero,
    ite_ite_else]

/-- the code's `mtu = 2 ** (prefix_size * 8)` is the bound `256 ^ p` of `lpFrame` -/
theorem pow_mtu (p : Nat) : 2 ^ (p * 8) = 256 ^ p := by
  rw [Nat.mul_comm, Nat.pow_mul]

/-- **`length_prefix.frame.on_next`**, generated from rxsci/framing/length_prefix.py, is the model's `lpFrame`: an item that fits
its prefix is emitted as prefix ++ item and nothing else happens; an item that does not fit is never emitted — the closure ends
with `OverflowError` (after notifying `ValueError` when the item is longer than `mtu`). -/
theorem LinkB_lp_frame (big : Bool) (p : Nat) (item : List Nat) (s : BSt) :
    match lpFrame big p item with
    | some x => BM.run (Gen.lp_frame_on_next p big item) s = (.ok (), { s with out := s.out ++ [x] })
    | none => ∃ s', BM.run (Gen.lp_frame_on_next p big item) s = (.error "OverflowError", s') ∧ s'.out = s.out := by
  by_cases h : item.length < 256 ^ p
  · simp only [lpFrame, Gen.lp_frame_on_next, run_simps, pow_mtu, h, Nat.lt_asymm h]
  · by_cases hg : item.length > 256 ^ p <;>
      simp only [lpFrame, Gen.lp_frame_on_next, run_simps, pow_mtu, h, hg] <;> exact ⟨_, rfl, rfl⟩
end Rx
