import RxModel.Json
import RxModel.Lemmas.Framing
import RxModel.Props.C16
import RxModel.Props.C17
/-!
# C19 — JSON-lines dump/load round-trips objects, with or without compression

The composition of C17 (incremental utf-8), line framing (`lineRunG_frames`: `C15_line` for lines of
code points instead of `Char`s) and C16 (compression wrapper):
whatever the read chunking (and, with compression, whatever the chunking of the compressed file),
the loader hands to `loads` exactly the lines `dumps` produced, in order.
Library contracts: the serializer (`loads (dumps o) = o`; a serialized object is a non-empty line
of Unicode scalar values without a raw newline) and, with compression, `CodecContract`.
-/
namespace Rx

theorem payloadChunks_flatten (evs : List WEv) : (payloadChunks evs).flatten = payload evs := by
  induction evs with
  | nil => rfl
  | cons e evs ih => cases e <;> simp [payloadChunks, payload, ih]

/-- serialized objects: non-empty, no raw newline, Unicode scalar values -/
def GoodLines (ls : List (List Nat)) : Prop :=
  ∀ l ∈ ls, l ≠ [] ∧ 10 ∉ l ∧ ∀ c ∈ l, isScalar c = true

/-- **no compression**: every read chunking of the file gives back exactly the serialized lines -/
theorem C19_roundtrip (ls : List (List Nat)) (hl : GoodLines ls) (cs : List (List Nat))
    (hcs : cs.flatten = jsonWriteBytes ls) :
    jsonReadLines cs = .ok ls := by
  have hok : ∀ s ∈ ls.map (· ++ [10]), ∀ c ∈ s, Enc.utf8.ok c = true := by
    intro s hs c hc
    obtain ⟨l, hlm, rfl⟩ := List.mem_map.mp hs
    rcases List.mem_append.mp hc with h | h
    · exact (hl l hlm).2.2 c h
    · simp at h; subst h; decide
  obtain ⟨texts, h1, h2⟩ := C17_roundtrip .utf8 (ls.map (· ++ [10])) cs hok hcs
  have hframes := lineRunG_frames (10 : Nat) ls [] texts (fun it hit => (hl it hit).2.1) (by simp)
    (by rw [h2]; simp)
  -- the decoded texts concatenate to the terminated lines (`h2`), un-framing them gives `ls` and no
  -- tail (`hframes`), and no line of `ls` is empty, so the loader's filter keeps them all
  unfold jsonReadLines
  simp only [h1, bind, Except.bind, pure, Except.pure]
  rw [hframes.1, hframes.2]
  simp only [if_true, List.append_nil]
  congr 1
  rw [List.filter_eq_self]
  intro l hlm
  simpa using (hl l hlm).1

/-- zero objects: the file is empty and zero items are produced -/
theorem C19_empty : jsonWriteBytes [] = [] ∧ jsonReadLines [] = .ok [] := by
  constructor
  · decide
  · exact C19_roundtrip [] (by intro l hl; simp at hl) [] (by decide)

/-- **with compression** (the zstd wrapper, `skipEmpty = true`, under the codec contract): however the
compressed file is cut into read chunks, decompress completes and the loader gets exactly the
serialized lines.  For the zlib/gzip wrapper (`skipEmpty = false`) the same follows from
`C16_roundtrip_zlib`; it is not stated. -/
theorem C19_roundtrip_compressed (K : StreamCodec) (z : Bytes) (ls : List (List Nat)) (hl : GoodLines ls)
    (hK : CodecContract K (fun p => p ≠ []) z (jsonWriteBytes ls)) (cs : List Bytes) (hcs : cs.flatten = z) :
    completedOK (decompressRun K true K.dinit cs) = true ∧
    jsonReadLines (payloadChunks (decompressRun K true K.dinit cs)) = .ok ls := by
  obtain ⟨h1, h2, _⟩ := C16_roundtrip K z (jsonWriteBytes ls) hK cs hcs
  exact ⟨h2, C19_roundtrip ls hl _ (by rw [payloadChunks_flatten, h1])⟩

/-- non-vacuity of `GoodLines`: the lines `{}` and `"é"` -/
example : GoodLines [[123, 125], [34, 233, 34]] := by
  intro l hl
  simp at hl
  rcases hl with rfl | rfl <;> decide

end Rx
