import RxModel.Lemmas.PlainSim
import RxModel.Heap
/-!
# C09 — scan/reduce algebra (per key lifetime; the per-key lifting is the subject of C02)

`scanOp g seed reduce term` is the per-key logic of `scan_mux` (lazy seeding on NOTSET, exception →
one `OnErrorMux` with the state unchanged, terminator/reduce at completion); `pScan` is `scan_obs`.
All statements are for every accumulator, seed, terminator and item list.
The second part is about accumulators that are mutable objects: the heap model of RxModel/Heap.lean
(the per-key state is a reference) emits what `scanOp` emits on values, by the relation `HRel`
between the two states, which every event preserves (`heapStep_sim`).
-/
namespace Rx

/-- running folds `[g seed x0, g (g seed x0) x1, …]` -/
def scanl' {α γ} (g : γ → α → γ) : γ → List α → List γ
  | _, [] => []
  | a, x :: xs => g a x :: scanl' g (g a x) xs

theorem scanl'_getLast {α γ} (g : γ → α → γ) : ∀ (xs : List α) (a : γ), xs ≠ [] →
    (scanl' g a xs).getLast? = some (xs.foldl g a)
  | [], _, h => absurd rfl h
  | [_], _, _ => rfl
  | x :: y :: ys, a, _ => by
    rw [scanl', List.getLast?_cons, scanl'_getLast g (y :: ys) _ (List.cons_ne_nil _ _)]; rfl

/-- what a raising accumulator does: one error at that item, accumulator unchanged -/
def scanE {α γ} (g : γ → α → Except Err γ) : γ → List α → List (LOut γ)
  | _, [] => []
  | a, x :: xs =>
    match g a x with
    | .ok a' => .item a' :: scanE g a' xs
    | .error e => .err e :: scanE g a xs

/-- the accumulator reached (failing items leave it unchanged) -/
def foldE {α γ} (g : γ → α → Except Err γ) : γ → List α → γ
  | a, [] => a
  | a, x :: xs => match g a x with | .ok a' => foldE g a' xs | .error _ => foldE g a xs

theorem foldE_append {α γ} (g : γ → α → Except Err γ) : ∀ (xs ys : List α) (a : γ),
    foldE g a (xs ++ ys) = foldE g (foldE g a xs) ys
  | [], _, _ => rfl
  | x :: xs, ys, a => by
    simp only [List.cons_append, foldE]
    cases g a x <;> exact foldE_append g xs ys _

theorem scanE_append {α γ} (g : γ → α → Except Err γ) : ∀ (xs ys : List α) (a : γ),
    scanE g a (xs ++ ys) = scanE g a xs ++ scanE g (foldE g a xs) ys
  | [], _, _ => rfl
  | x :: xs, ys, a => by
    simp only [List.cons_append, scanE, foldE]
    cases g a x <;> exact congrArg (_ :: ·) (scanE_append g xs ys _)

theorem scanE_ok {α γ} (g : γ → α → γ) : ∀ (xs : List α) (a : γ),
    scanE (fun a x => .ok (g a x)) a xs = (scanl' g a xs).map LOut.item
  | [], _ => rfl
  | x :: xs, a => congrArg (_ :: ·) (scanE_ok g xs (g a x))

theorem foldE_ok {α γ} (g : γ → α → γ) : ∀ (xs : List α) (a : γ),
    foldE (fun a x => .ok (g a x)) a xs = xs.foldl g a
  | [], _ => rfl
  | x :: xs, a => foldE_ok g xs (g a x)

theorem filter_map_item_eq_nil {γ} : ∀ l : List γ,
    (l.map LOut.item).filter (fun o => match o with | .item _ => false | _ => true) = []
  | [] => rfl
  | _ :: l => filter_map_item_eq_nil l

/-- from any state `s`: while items arrive the operator emits `scanE` from `s.getD seed` (in reduce
mode only its errors), and completion sees the accumulator `foldE` reaches -/
theorem scan_run {α γ} (g : γ → α → Except Err γ) (seed : γ) (reduce : Bool) (term : Option (γ → γ)) :
    ∀ (xs : List α) (s : Option γ),
      ((scanOp g seed reduce term).runL s xs).1.flatten =
        (if reduce then (scanE g (s.getD seed) xs).filter (fun o => match o with | .item _ => false | _ => true)
         else scanE g (s.getD seed) xs) ∧
      ((scanOp g seed reduce term).runL s xs).2 = scanFin seed reduce term (some (foldE g (s.getD seed) xs)) := by
  intro xs
  induction xs with
  | nil => intro s; exact ⟨by cases reduce <;> rfl, rfl⟩
  | cons x xs ih =>
    intro s
    show ((scanNext g seed reduce s x).2 :: ((scanOp g seed reduce term).runL (scanNext g seed reduce s x).1 xs).1).flatten = _ ∧
      ((scanOp g seed reduce term).runL (scanNext g seed reduce s x).1 xs).2 = _
    rw [List.flatten_cons, (ih _).1, (ih _).2]
    simp only [scanNext, scanE, foldE]
    cases g (s.getD seed) x <;> cases reduce <;> exact ⟨rfl, rfl⟩

theorem scan_out {α γ} (g : γ → α → Except Err γ) (seed : γ) (reduce : Bool) (term : Option (γ → γ)) (xs : List α) :
    (scanOp g seed reduce term).outL xs =
      (if reduce then (scanE g seed xs).filter (fun o => match o with | .item _ => false | _ => true)
       else scanE g seed xs) ++ scanFin seed reduce term (some (foldE g seed xs)) :=
  congr (congrArg _ (scan_run g seed reduce term xs none).1) (scan_run g seed reduce term xs none).2

/-- **streaming**: after the i-th item of a key, the left fold of the first i items from the seed;
nothing else at completion -/
theorem C09_stream {α γ} (g : γ → α → γ) (seed : γ) (xs : List α) :
    (scanOp (fun a x => .ok (g a x)) seed false none).outL xs = (scanl' g seed xs).map LOut.item := by
  rw [scan_out, scanE_ok]
  exact List.append_nil _

/-- **reduce**: nothing while items arrive, exactly one item at completion: the fold, or the seed
for a key that received no item -/
theorem C09_reduce {α γ} (g : γ → α → γ) (seed : γ) (xs : List α) :
    ((scanOp (fun a x => .ok (g a x)) seed true none).runL none xs).1.flatten = [] ∧
    ((scanOp (fun a x => .ok (g a x)) seed true none).runL none xs).2 = [LOut.item (xs.foldl g seed)] := by
  have h := scan_run (fun a x => .ok (g a x)) seed true none xs none
  rw [h.1, h.2, scanE_ok, foldE_ok]
  exact ⟨filter_map_item_eq_nil _, rfl⟩

/-- the streaming value after the last item equals the reduce value -/
theorem C09_agree {α γ} (g : γ → α → γ) (seed : γ) (xs : List α) (h : xs ≠ []) :
    ((scanOp (fun a x => .ok (g a x)) seed false none).outL xs).getLast? =
      ((scanOp (fun a x => .ok (g a x)) seed true none).runL none xs).2.head? := by
  rw [C09_stream, (C09_reduce g seed xs).2, List.getLast?_map, scanl'_getLast g xs seed h]
  rfl

/-- **terminator**: applied exactly once, at completion, to the final fold (or to the seed);
streaming mode appends its result to the running folds, reduce mode emits only its result -/
theorem C09_term {α γ} (g : γ → α → γ) (seed : γ) (t : γ → γ) (reduce : Bool) (xs : List α) :
    (scanOp (fun a x => .ok (g a x)) seed reduce (some t)).outL xs =
      (if reduce then [] else (scanl' g seed xs).map LOut.item) ++ [LOut.item (t (xs.foldl g seed))] := by
  rw [scan_out, scanE_ok, foldE_ok]
  cases reduce
  · rfl
  · exact congrArg (· ++ _) (filter_map_item_eq_nil _)

/-- **errors**: exactly one mux error for the key at the position of each failing item, and the
fold continues with the accumulator it had before (`scanE`) -/
theorem C09_error {α γ} (g : γ → α → Except Err γ) (seed : γ) (xs : List α) :
    ((scanOp g seed false none).runL none xs).1.flatten = scanE g seed xs :=
  (scan_run g seed false none xs none).1

/-- "as if the item were absent": dropping an item on which the accumulator raises changes neither
the items emitted nor the accumulator reached -/
theorem C09_error_absent {α γ} (g : γ → α → Except Err γ) : ∀ (pre : List α) (a : γ) (x : α) (post : List α) (e : Err),
    g (foldE g a pre) x = .error e →
    items (scanE g a (pre ++ x :: post)) = items (scanE g a (pre ++ post)) ∧
    foldE g a (pre ++ x :: post) = foldE g a (pre ++ post) := by
  intro pre a x post e h
  rw [scanE_append, scanE_append, foldE_append, foldE_append, scanE, foldE, h]
  exact ⟨by rw [items_append, items_append, items_err], rfl⟩

/-- plain `scan_obs` computes the same folds -/
theorem C09_plain {α γ} (g : γ → α → γ) (seed : γ) (reduce : Bool) (term : Option (γ → γ)) :
    ∀ (xs : List α) (s : Option γ),
      (pScan (fun a x => .ok (g a x)) seed reduce term).runP s xs =
        (scanOp (fun a x => .ok (g a x)) seed reduce term).runL s xs :=
  fun xs s => runP_eq_runL (P := pScan _ seed reduce term) (L := scanOp _ seed reduce term) Eq
    (fun _ _ _ h => h ▸ by cases reduce <;> exact ⟨rfl, rfl, rfl⟩) (fun _ _ h => h ▸ rfl) xs s s rfl

example : (scanOp (fun (a x : Nat) => Except.ok (a + x)) 0 false none).outL [1, 2, 3] = [.item 1, .item 3, .item 6] := rfl
/-- the failing item gives one error, and the sum goes on from the 1 it had before -/
example : (scanOp (fun (a x : Nat) => if x = 2 then Except.error "ValueError" else .ok (a + x)) 0 false none).outL [1, 2, 3]
    = [.item 1, .err "ValueError", .item 4] := rfl

/-! ## the seed is never shared: reference semantics with a fresh copy = value semantics -/

/-- the accumulator of the heap model as a pure function on values -/
def appendAcc {α} (acc : List α) (x : α) : Except Err (List α) := .ok (acc ++ [x])

/-- one key: no key / NOTSET on both sides, or a reference (never the seed object at address 0)
to an object that holds exactly the value -/
def PtRel {α} (h : List (List α)) : Option (Option Nat) → Option (Option (List α)) → Prop
  | none, none => True
  | some none, some none => True
  | some (some a), some (some v) => 0 < a ∧ a < h.length ∧ h.getD a [] = v
  | _, _ => False

/-- heap state vs keyed value state: key by key `PtRel`, the seed object is intact, and no two keys
hold the same reference -/
structure HRel {α} (seed : List α) (st : HeapSt α) (rs : Key → Option (Option (List α))) : Prop where
  pos : 0 < st.heap.length
  seed0 : st.heap.getD 0 [] = seed
  pt : ∀ k, PtRel st.heap (st.slot k) (rs k)
  inj : ∀ k k' a, st.slot k = some (some a) → st.slot k' = some (some a) → k = k'

theorem appendAt_length {α} (h : List (List α)) (a : Nat) (x : α) : (appendAt h a x).length = h.length :=
  List.length_set

theorem appendAt_getD_self {α} (h : List (List α)) (a : Nat) (x : α) (ha : a < h.length) :
    (appendAt h a x).getD a [] = h.getD a [] ++ [x] :=
  (getD_set ..).trans (if_pos ⟨rfl, ha⟩)

theorem appendAt_getD_ne {α} (h : List (List α)) (a b : Nat) (x : α) (hab : a ≠ b) :
    (appendAt h a x).getD b [] = h.getD b [] :=
  (getD_set ..).trans (if_neg fun h => hab h.1)

theorem inj_upd_fresh (slot : Key → Option (Option Nat)) (k : Key) (v : Option (Option Nat))
    (hinj : ∀ k k' a, slot k = some (some a) → slot k' = some (some a) → k = k')
    (hfresh : ∀ a, v = some (some a) → ∀ k', k' ≠ k → slot k' ≠ some (some a)) :
    ∀ k1 k2 a, upd slot k v k1 = some (some a) → upd slot k v k2 = some (some a) → k1 = k2 := by
  intro k1 k2 a h1 h2
  unfold upd at h1 h2
  by_cases hk1 : k1 = k <;> by_cases hk2 : k2 = k <;> simp only [hk1, hk2, if_true, if_false] at h1 h2
  · rw [hk1, hk2]
  · exact absurd h2 (hfresh a h1 k2 hk2)
  · exact absurd h1 (hfresh a h2 k1 hk1)
  · exact hinj k1 k2 a h1 h2

section
variable {α : Type} {seed : List α} {st : HeapSt α} {rs : Key → Option (Option (List α))}

theorem HRel.set_nonref (H : HRel seed st rs) (k : Key) (o : Option (Option Nat)) (r : Option (Option (List α))) (ho : ∀ a, o ≠ some (some a))
    (hp : PtRel st.heap o r) : HRel seed ⟨st.heap, upd st.slot k o⟩ (upd rs k r) := by
  refine ⟨H.pos, H.seed0, fun k' => ?_, inj_upd_fresh st.slot k o H.inj (fun a h => absurd h (ho a))⟩
  by_cases hk : k' = k
  · simp only [upd, hk, if_true]; exact hp
  · simp only [upd, hk, if_false]; exact H.pt k'

/-- key `k` appends `x` in place to the object at `a`, which no other key refers to, in a heap `h'`
that extends the old one -/
theorem HRel.append (H : HRel seed st rs) (k : Key) (a : Nat) (x : α) (v : List α) (h' : List (List α)) (hlen : st.heap.length ≤ h'.length)
    (hext : ∀ b, b < st.heap.length → h'.getD b [] = st.heap.getD b [])
    (ha0 : 0 < a) (ha : a < h'.length) (hv : h'.getD a [] = v)
    (hfree : ∀ k', k' ≠ k → st.slot k' ≠ some (some a)) :
    (appendAt h' a x).getD a [] = v ++ [x] ∧
    HRel seed ⟨appendAt h' a x, upd st.slot k (some (some a))⟩ (upd rs k (some (some (v ++ [x])))) := by
  have hnew : (appendAt h' a x).getD a [] = v ++ [x] := hv ▸ appendAt_getD_self h' a x ha
  have hold : ∀ b, b < st.heap.length → b ≠ a → (appendAt h' a x).getD b [] = st.heap.getD b [] :=
    fun b hb hba => (appendAt_getD_ne h' a b x (Ne.symm hba)).trans (hext b hb)
  have hl : st.heap.length ≤ (appendAt h' a x).length := by rw [appendAt_length]; exact hlen
  refine ⟨hnew, Nat.lt_of_lt_of_le H.pos hl, (hold 0 H.pos (Nat.ne_of_lt ha0)).trans H.seed0, fun k' => ?_,
    inj_upd_fresh st.slot k _ H.inj (fun b hb => by cases hb; exact hfree)⟩
  by_cases hk : k' = k
  · simp only [upd, hk, if_true]
    exact ⟨ha0, by rw [appendAt_length]; exact ha, hnew⟩
  · simp only [upd, hk, if_false]
    -- another key: its object lies in the old heap and is not the one at `a`
    match hs : st.slot k', rs k', H.pt k' with
    | none, none, _ => trivial
    | some none, some none, _ => trivial
    | some (some b), some (some w), ⟨b0, b1, b2⟩ =>
      exact ⟨b0, Nat.lt_of_lt_of_le b1 hl, (hold b b1 (fun e => hfree k' hk (e ▸ hs))).trans b2⟩

theorem heapStep_sim (H : HRel seed st rs) (e : Ev α) :
    (heapStep true 0 st e).2 = (refStep (scanOp appendAcc seed false none) rs e).2 ∧
    HRel seed (heapStep true 0 st e).1 (refStep (scanOp appendAcc seed false none) rs e).1 := by
  cases e with
  | fatal x => exact ⟨rfl, H⟩
  | create k => exact ⟨rfl, H.set_nonref k (some none) (some none) nofun trivial⟩
  | err k x =>
    have hu : ∀ s, rs k = some s → HRel seed st (upd rs k (some s)) := fun s h => (upd_eq_self h).symm ▸ H
    simp only [heapStep, refStep]
    match hs : st.slot k, hr : rs k, H.pt k with
    | none, none, _ => exact ⟨rfl, H⟩
    | some none, some none, _ => exact ⟨rfl, hu _ hr⟩
    | some (some a), some (some v), _ => exact ⟨rfl, hu _ hr⟩
  | done k =>
    simp only [heapStep, refStep]
    match st.slot k, rs k, H.pt k with
    | none, none, _ => exact ⟨rfl, H⟩
    | some none, some none, _ => exact ⟨rfl, H.set_nonref k none none nofun trivial⟩
    | some (some a), some (some v), _ => exact ⟨rfl, H.set_nonref k none none nofun trivial⟩
  | next k x =>
    simp only [heapStep, refStep]
    match hs : st.slot k, rs k, H.pt k with
    | none, none, _ => exact ⟨rfl, H⟩
    | some none, some none, _ =>
      -- first item of the lifetime: a fresh copy of the seed, at the new address `st.heap.length`
      have hl : (st.heap ++ [st.heap.getD 0 []]).length = st.heap.length + 1 := List.length_append
      have hn := H.append k st.heap.length x seed (st.heap ++ [st.heap.getD 0 []]) (hl ▸ Nat.le_succ _)
        (fun b hb => by rw [List.getD_eq_getElem?_getD, List.getElem?_append_left hb]; rfl) H.pos (hl ▸ Nat.lt_succ_self _)
        (by rw [List.getD_eq_getElem?_getD, List.getElem?_append_right (Nat.le_refl _), Nat.sub_self]; exact H.seed0)
        (fun k' _ hs' => by
          have hp := H.pt k'
          rw [hs'] at hp
          match rs k', hp with
          | some (some _), ⟨_, b1, _⟩ => exact Nat.lt_irrefl _ b1)
      exact ⟨congrArg (fun l => [Ev.next k l]) hn.1, hn.2⟩
    | some (some a), some (some v), ⟨a0, a1, a2⟩ =>
      have hn := H.append k a x v st.heap (Nat.le_refl _) (fun _ _ => rfl) a0 a1 a2
        (fun k' hk hs' => hk (H.inj k' k a hs' hs))
      rw [upd_eq_self hs] at hn
      exact ⟨congrArg (fun l => [Ev.next k l]) hn.1, hn.2⟩

end

/-- **seed isolation.**  With `copy.deepcopy(seed)` / `seed()` per key lifetime, `scan` over
mutable accumulator objects (in-place `append`) emits, on EVERY event trace — any keys, any
interleaving, keys completed and created again — exactly what the value semantics emits
(`scanOp` with the pure accumulator `acc ++ [x]`): mutating the accumulator of one key never
changes what another key, a later lifetime, or the seed holds. -/
theorem C09_seed_isolation {α} (seed : List α) :
    ∀ (t : List (Ev α)) (st : HeapSt α) (rs : Key → Option (Option (List α))), HRel seed st rs →
      runSteps (heapStep true 0) st t = runSteps (refStep (scanOp appendAcc seed false none)) rs t :=
  runSteps_rel _ _ (HRel seed) (fun _ _ e H => heapStep_sim H e)

/-- from subscription: the heap holds the seed object only -/
theorem C09_seed_isolation_run {α} (seed : List α) (t : List (Ev α)) :
    runSteps (heapStep true 0) (heapInit seed) t = (refLift (scanOp appendAcc seed false none)).run t :=
  C09_seed_isolation seed t (heapInit seed) (fun _ => none)
    ⟨Nat.one_pos, rfl, fun _ => trivial, nofun⟩

/-- and the defect "hand the seed object itself to the accumulator" breaks it: the second key sees
the first key's item -/
example : runSteps (heapStep false 0) (heapInit ([] : List Nat)) [.create [0], .create [1], .next [0] 7, .next [1] 8] ≠
    (refLift (scanOp appendAcc ([] : List Nat) false none)).run [.create [0], .create [1], .next [0] 7, .next [1] 8] := by
  decide

end Rx
