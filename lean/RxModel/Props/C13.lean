import RxModel.Lemmas.LocalRun
import RxModel.Catalog
/-!
# C13 — item-level errors on multiplexed streams are isolated and routable

Per key lifetime (the lifting to all keys and interleavings is `impl_eq_ref`): a raising user
function yields exactly one mux error at that position and leaves the operator's state unchanged;
`ignore` (and the main-stream side of the error router) drops it, `error.map` replaces it in place;
an unhandled mux error becomes `on_error` where the stream is demultiplexed.
-/
namespace Rx

/-- map / starmap: a raising mapper gives exactly one error for the key, in place of the item -/
theorem C13_map_one_error {α β} (f : α → Except Err β) (x : α) :
    (mapOp f).next () x = ((), match f x with | .ok y => [.item y] | .error e => [.err e]) := rfl

/-- filter: a raising predicate gives exactly one error, the item is not forwarded -/
theorem C13_filter_one_error {α γ} (p : α → Except Err γ) (t : γ → Bool) (x : α) (e : Err) (h : p x = .error e) :
    (filterOp p t).next () x = ((), [.err e]) := by simp only [filterOp, h]

/-- scan: one error and the accumulator is untouched (see also `C09_error`, `C09_error_absent`) -/
theorem C13_scan_one_error {α γ} (g : γ → α → Except Err γ) (seed : γ) (r : Bool) (tm : Option (γ → γ))
    (s : Option γ) (x : α) (e : Err) (h : g (s.getD seed) x = .error e) :
    (scanOp g seed r tm).next s x = (s, [.err e]) := by
  simp only [scanOp, scanNext, h]

/-- **ignore after map**: the pipeline `[map f, ignore]` emits, for a key, exactly the images of the
items on which `f` does not raise, each in the chunk of its own item — the later items of the key
continue as if the failing item were absent -/
theorem C13_ignore_map {α β} (f : α → Except Err β) (xs : List α) :
    (compLocal (mapOp f) ignoreOp).runL (compLocal (mapOp f) ignoreOp).init xs =
      (xs.map (fun x => match f x with | .ok y => [LOut.item y] | .error _ => []), []) :=
  runRaw_fixed (fun x => by
    show (_, (feedL ignoreOp () (match f x with | .ok y => [.item y] | .error e => [.err e])).2) = _
    cases f x <;> rfl) xs

/-- **error.map after map**: the mapped item appears at the position of the failing item -/
theorem C13_map_err_in_place {α β} (f : α → Except Err β) (h : Err → β) (x : α) :
    ((compLocal (mapOp f) (mapErrOp (fun e => .ok (h e)))).next
      (compLocal (mapOp f) (mapErrOp (fun e => .ok (h e)))).init x).2 =
      [LOut.item (match f x with | .ok y => y | .error e => h e)] := by
  show (feedL (mapErrOp fun e => .ok (h e)) () (match f x with | .ok y => [.item y] | .error e => [.err e])).2 = _
  cases f x <;> rfl

def errorsOf {β} (os : List (LOut β)) : List Err :=
  os.filterMap (fun o => match o with | .err e => some e | _ => none)

theorem errorsOf_append {β} (a b : List (LOut β)) : errorsOf (a ++ b) = errorsOf a ++ errorsOf b :=
  List.filterMap_append

/-- **router**: the dead letter receives the errors that arrive at the router, in arrival order
(`errorsOf`), whatever else the key emits; behind `map f` these are the errors of the failing items.
That the router hands each mux error to the dead letter and behaves as `ignore` on the main stream is
`LinkH_error_router` (Props/LinkC13.lean), on the generated handler. -/
theorem C13_router_dead_letters {α β} (f : α → Except Err β) (xs : List α) :
    errorsOf ((mapOp f).outL xs) = xs.filterMap (fun x => match f x with | .ok _ => none | .error e => some e) := by
  rw [(mapOp f).outL_eq_spec
    (fun _ xs => xs.flatMap fun x => match f x with | .ok y => [LOut.item y] | .error e => [LOut.err e])
    (fun _ => rfl) (fun _ _ _ => rfl) xs]
  induction xs with
  | nil => rfl
  | cons x xs ih =>
    rw [List.flatMap_cons, errorsOf_append, ih, List.filterMap_cons]
    cases f x <;> rfl

/-- **unhandled**: where the stream is demultiplexed, the first mux error surfaces as `on_error`
and nothing is delivered after it -/
theorem C13_unhandled {β} (pre post : List (Ev β)) (k : Key) (e : Err)
    (hpre : ∀ ev ∈ pre, match ev with | .err _ _ => False | .fatal _ => False | _ => True) :
    demuxTop (pre ++ .err k e :: post) = demuxTop pre ++ [.fatal e] := by
  induction pre with
  | nil => rfl
  | cons a pre ih =>
    obtain ⟨h1, h2⟩ := List.forall_mem_cons.mp hpre
    cases a with
    | create k' => exact ih h2
    | next k' v => exact congrArg (_ :: ·) (ih h2)
    | done k' => exact ih h2
    | err k' e' => exact h1.elim
    | fatal e' => exact h1.elim

theorem ignore_step {α β} {L : LocalOp α β} {s : (compLocal L ignoreOp).σ} {x : α} {e : Err}
    (h : L.next s.1 x = (s.1, [.err e])) : (compLocal L ignoreOp).next s x = (s, []) :=
  compLocal_next_err h

/-- **isolation, general form.**  Let `L` be any per-key operator and suppose that in the state
reached after the items `pre` the item `x` makes the user function raise: one mux error, state
unchanged (what `map`, `starmap`, `filter` and `scan` do, `C13_*_one_error`).  Then `L | ignore`
emits over `pre ++ x :: post` exactly what it emits over `pre ++ post`: the key continues as if the
item were absent (the chunk of `x` itself is empty). -/
theorem C13_absent {α β} (L : LocalOp α β) (pre post : List α) (x : α) (e : Err)
    (h : L.next (stateAfter (compLocal L ignoreOp).next (compLocal L ignoreOp).init pre).1 x =
          ((stateAfter (compLocal L ignoreOp).next (compLocal L ignoreOp).init pre).1, [.err e])) :
    (compLocal L ignoreOp).outL (pre ++ x :: post) = (compLocal L ignoreOp).outL (pre ++ post) ∧
    ((compLocal L ignoreOp).runL (compLocal L ignoreOp).init (pre ++ x :: post)).1 =
      ((compLocal L ignoreOp).runL (compLocal L ignoreOp).init pre).1 ++ [[]] ++
        ((compLocal L ignoreOp).runL (stateAfter (compLocal L ignoreOp).next (compLocal L ignoreOp).init pre) post).1 := by
  unfold LocalOp.outL LocalOp.runL
  rw [runRaw_append, runRaw_append, runRaw_cons, ignore_step h]
  simp

/-- the same with `error.map` as the handler: the mapped item takes the place of the failing one -/
theorem C13_replaced {α β} (L : LocalOp α β) (hm : Err → β) (s : L.σ) (x : α) (e : Err)
    (h : L.next s x = (s, [.err e])) :
    (compLocal L (mapErrOp (fun e => .ok (hm e)))).next (s, ()) x = ((s, ()), [.item (hm e)]) :=
  compLocal_next_err (H := mapErrOp fun e => .ok (hm e)) (s := (s, ())) h

/-- instances: the hypothesis of `C13_absent` holds for scan whenever the accumulator raises -/
theorem C13_scan_absent {α γ} (g : γ → α → Except Err γ) (seed : γ) (r : Bool) (tm : Option (γ → γ))
    (pre post : List α) (x : α) (e : Err)
    (h : g ((stateAfter (compLocal (scanOp g seed r tm) ignoreOp).next (compLocal (scanOp g seed r tm) ignoreOp).init pre).1.getD seed) x = .error e) :
    (compLocal (scanOp g seed r tm) ignoreOp).outL (pre ++ x :: post) =
      (compLocal (scanOp g seed r tm) ignoreOp).outL (pre ++ post) :=
  (C13_absent (scanOp g seed r tm) pre post x e (C13_scan_one_error g seed r tm _ x e h)).1

theorem C13_filter_absent {α γ} (p : α → Except Err γ) (t : γ → Bool) (pre post : List α) (x : α) (e : Err)
    (h : p x = .error e) :
    (compLocal (filterOp p t) ignoreOp).outL (pre ++ x :: post) = (compLocal (filterOp p t) ignoreOp).outL (pre ++ post) :=
  (C13_absent (filterOp p t) pre post x e (C13_filter_one_error p t x e h)).1

/-- `map | ignore`: the item 2 is as if absent -/
example : (compLocal (mapOp (fun n : Nat => if n % 2 = 0 then Except.error "ValueError" else .ok (n + 10))) ignoreOp).outL [1, 2, 3]
    = [.item 11, .item 13] := rfl
/-- the dead letter gets one error for each of 2 and 4 -/
example : errorsOf ((mapOp (fun n : Nat => if n % 2 = 0 then (Except.error "ValueError" : Except Err Nat) else .ok n)).outL [1, 2, 3, 4])
    = ["ValueError", "ValueError"] := rfl

/-- **every failing item at once.**  When whether an item makes `L` raise is decided by the item
alone (`bad x = some e`), `L | ignore` over any item list is `L | ignore` over the list without the
failing items — first, last, consecutive, all. -/
theorem ignore_all_absent {α β} (L : LocalOp α β) (bad : α → Option Err)
    (hbad : ∀ s x e, bad x = some e → L.next s x = (s, [.err e])) (xs : List α) :
    (compLocal L ignoreOp).outL xs = (compLocal L ignoreOp).outL (xs.filter (fun x => (bad x).isNone)) :=
  outRaw_eq_spec (fun s xs => outRaw (compLocal L ignoreOp).next (compLocal L ignoreOp).fin s (xs.filter fun x => (bad x).isNone))
    (fun _ => rfl) (fun s x xs => by
      cases hb : bad x with
      | none => rw [List.filter_cons_of_pos (by rw [hb]; rfl), outRaw_cons]
      | some e => rw [List.filter_cons_of_neg (by rw [hb]; simp), ignore_step (hbad s.1 x e hb)]; rfl) xs _

/-- `scan | ignore`, when whether the accumulator raises is decided by the item alone -/
theorem C13_scan_all_absent {α γ} (g : γ → α → Except Err γ) (seed : γ) (r : Bool) (tm : Option (γ → γ))
    (bad : α → Option Err) (hbad : ∀ a x e, bad x = some e → g a x = .error e) (xs : List α) :
    (compLocal (scanOp g seed r tm) ignoreOp).outL xs =
      (compLocal (scanOp g seed r tm) ignoreOp).outL (xs.filter (fun x => (bad x).isNone)) :=
  ignore_all_absent _ bad (fun s x e h => C13_scan_one_error g seed r tm s x e (hbad _ x e h)) xs

example : (compLocal (scanOp (fun (a n : Nat) => if n % 2 = 0 then Except.error "ValueError" else .ok (a + n)) 0 false none) ignoreOp).outL [2, 1, 4, 4, 3]
    = [.item 1, .item 4] := rfl

/-- the catalog's failing accumulator (`raise_if_mod k r`: the harness's user function) meets the hypothesis: over int items,
the items with `x % k = r` are as if absent, all of them at once -/
theorem C13_scan_catalog_absent (k r : Nat) (exc : String) (seed : Val) (rd : Bool) (xs : List Int) :
    (compLocal (scanOp (Fn2.raiseIfMod k r exc).eval seed rd none) ignoreOp).outL (xs.map Val.int) =
      (compLocal (scanOp (Fn2.raiseIfMod k r exc).eval seed rd none) ignoreOp).outL
        ((xs.filter (fun i => !(i % (k : Int) == (r : Int)))).map Val.int) := by
  rw [C13_scan_all_absent (Fn2.raiseIfMod k r exc).eval seed rd none
    (fun x => match x with | .int i => if i % (k : Int) == (r : Int) then some exc else none | _ => none),
    List.filter_map]
  · exact congrArg (fun p => (compLocal _ ignoreOp).outL ((xs.filter p).map Val.int))
      (funext fun i => by
        show (if i % (k : Int) == (r : Int) then some exc else none).isNone = _
        cases i % (k : Int) == (r : Int) <;> rfl)
  · intro a x e hb
    cases x with
    | int i =>
      show (if i % (k : Int) == (r : Int) then Except.error exc else Val.add a (.int i)) = _
      cases h : i % (k : Int) == (r : Int) <;> simp only [h, if_true, Bool.false_eq_true, if_false, Option.some.injEq] at hb
      · cases hb
      · rw [hb]; rfl
    | _ => cases hb

/-- `filter | ignore`: every item on which the predicate raises is as if absent, all of them at once -/
theorem C13_filter_all_absent {α γ} (p : α → Except Err γ) (t : γ → Bool) (xs : List α) :
    (compLocal (filterOp p t) ignoreOp).outL xs =
      (compLocal (filterOp p t) ignoreOp).outL (xs.filter (fun x => match p x with | .ok _ => true | .error _ => false)) := by
  rw [ignore_all_absent (filterOp p t) (fun x => match p x with | .ok _ => none | .error e => some e)
    (fun _ x e h => C13_filter_one_error p t x e (by cases hp : p x <;> simp_all)) xs]
  exact congrArg _ (List.filter_congr fun x _ => by cases p x <;> rfl)

example : (compLocal (filterOp (fun n : Nat => if n % 3 = 0 then (Except.error "ValueError" : Except Err Nat) else .ok n) (fun n => n % 2 == 1)) ignoreOp).outL [3, 1, 6, 2, 5, 9]
    = [.item 1, .item 5] := rfl

end Rx
