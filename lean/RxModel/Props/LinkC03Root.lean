import RxGen.Handlers
import RxModel.Pipeline
import RxModel.Lemmas.PyHandlerLemmas
/-!
# Link theorems for the two ends of a multiplexed pipeline on an ordinary observable (rxsci/operators/multiplex.py)

`harness/pygen.py` (`generate_root`) translates `mux_observable` — what it emits before subscribing its source, its `on_next` and
`on_completed` closures — and `demux_observable.on_next` into the monad `RM` (`RxModel/PyHandler.lean`). The model's top level
(`runMultiplex`, `Pipeline.lean`) is `demuxTop` after the pipeline run on `rootTrace xs`: these theorems tie both to the source.
-/
namespace Rx

/-- what the source does to `mux_observable`: it is subscribed, pushes its items, completes -/
def driveRoot (xs : List Val) : RM (Ev Val) Unit := do
  Gen.mux_observable_subscribe
  for x in xs do
    Gen.mux_observable_on_next x
  Gen.mux_observable_on_completed

/-- **`mux_observable`** (its subscription action and its `on_next` / `on_completed` closures, generated from
rxsci/operators/multiplex.py): a source that emits `xs` and completes becomes exactly the model's `rootTrace xs` — the root key
`(0,)` created before the first item, one `OnNextMux` per item, the key completed, then `on_completed` -/
theorem LinkR_root_trace (xs : List Val) :
    RM.run (driveRoot xs) {} = (.ok (), { out := rootTrace xs, completed := true, failed := none }) := by
  simp only [driveRoot, Gen.mux_observable_subscribe, Gen.mux_observable_on_next, Gen.mux_observable_on_completed, run_simps, rootTrace]

/-- the items of an event list before its first error, and that error -/
def demuxAll : List (Ev Val) → List Val × Option Err
  | [] => ([], none)
  | .next _ v :: r => (v :: (demuxAll r).1, (demuxAll r).2)
  | .err _ e :: _r => ([], some e)
  | .fatal e :: _r => ([], some e)
  | _ :: r => demuxAll r

/-- `demuxTop` is: the items up to the first error, then that error as `on_error` -/
theorem demuxTop_eq (l : List (Ev Val)) :
    demuxTop l = (demuxAll l).1.map .item ++ (match (demuxAll l).2 with | some e => [.fatal e] | none => []) := by
  induction l with
  | nil => rfl
  | cons ev r ih => cases ev <;> simp only [demuxTop, demuxAll, ih, List.map_cons, List.map_nil, List.cons_append, List.nil_append]

/-- **`demux_observable.on_next`** (generated): an item event hands its item to the observer, a mux error (or an `on_error` of the
source) is `observer.on_error`, the other events are dropped — event by event what `demuxTop` says (`demuxTop_eq`).
No theorem folds the closure over a trace: what RxPY does with notifications after `on_error` is
RxPY's business -/
theorem LinkR_demux_next (ev : Ev Val) (s : RSt Val) :
    RM.run (Gen.demux_observable_on_next ev) s
      = (.ok (), match ev with
          | .next _ v => { s with out := s.out ++ [v] }
          | .err _ e => { s with failed := s.failed <|> some e }
          | .fatal e => { s with failed := s.failed <|> some e }
          | _ => s) := by
  cases ev <;> rfl

example : (RM.run (driveRoot [.int 1, .int 2]) {}).2.out = [.create [0], .next [0] (.int 1), .next [0] (.int 2), .done [0]] := by decide

end Rx
