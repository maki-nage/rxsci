import RxGen.Handlers
import RxModel.Lemmas.HandlerSim
import RxModel.Lemmas.PyValLemmas
/-!
# C13 link theorems: the `on_next` handlers of `map_mux`, `filter_mux`, `error.ignore`, `error.map`, generated from the
source, emit exactly what the model's `mapOp f`, `filterOp p truthy`, `ignoreOp`, `mapErrOp f` emit through `idxStep`
(one `OnErrorMux` for the key when the user function raises; the error dropped / replaced in place by the handlers)
-/
namespace Rx

open HM

theorem map_mux_impl (f : Val → Except Err Val) : OutImpl (mapOp f) (fun _ => True) (Gen.map_mux_on_next f) := by
  refine ⟨fun k v _ _ _ => ?_, fun _ => rfl, fun _ => rfl, fun _ => rfl, fun _ => rfl⟩
  unfold Gen.map_mux_on_next
  cases hf : f v <;> simp only [run_simps, mapOp, hf] <;> rfl

/-- `map_mux` keeps no state: whatever the store, it emits what `idxStep (mapOp f)` emits, provided the key of an item is live -/
theorem LinkH_map (f : Val → Except Err Val) (st : Nat → Option Unit) (stores : Nat → Nat → Slot Val) (ev : Ev Val)
    (hlive : ∀ k v, ev = .next k v → st k.idx ≠ none) :
    runH (Gen.map_mux_on_next f ev) stores = (.ok (), stores, (idxStep (mapOp f) st ev).2) :=
  (map_mux_impl f).link st stores ev hlive (fun _ _ _ => trivial) fun k e _ => by simp only [idxStep]; split <;> exact .emit _

theorem filter_mux_impl (p : Val → Except Err Val) : OutImpl (filterOp p Val.truthy) (fun _ => True) (Gen.filter_mux_on_next p) := by
  refine ⟨fun k v _ _ _ => ?_, fun _ => rfl, fun _ => rfl, fun _ => rfl, fun _ => rfl⟩
  unfold Gen.filter_mux_on_next
  cases hf : p v with
  | error e => simp only [run_simps, filterOp, hf]; rfl
  | ok r => simp only [run_simps, filterOp, hf, PyAlg.truthy_eq]; cases Val.truthy r <;> rfl

theorem LinkH_filter (p : Val → Except Err Val) (st : Nat → Option Unit) (stores : Nat → Nat → Slot Val) (ev : Ev Val)
    (hlive : ∀ k v, ev = .next k v → st k.idx ≠ none) :
    runH (Gen.filter_mux_on_next p ev) stores = (.ok (), stores, (idxStep (filterOp p Val.truthy) st ev).2) :=
  (filter_mux_impl p).link st stores ev hlive (fun _ _ _ => trivial) fun k e _ => by simp only [idxStep]; split <;> exact .emit _

theorem error_ignore_impl : OutImpl ignoreOp (fun _ => True) (Gen.error_ignore_on_next (V := Val)) :=
  ⟨fun _ _ _ _ => .emit _, fun _ => rfl, fun _ => rfl, fun _ => rfl, fun _ => rfl⟩

/-- `error.ignore`: a mux error of a live key is dropped, everything else is forwarded -/
theorem LinkH_error_ignore (st : Nat → Option Unit) (stores : Nat → Nat → Slot Val) (ev : Ev Val)
    (hlive : ∀ k, ((∃ v, ev = .next k v) ∨ (∃ e, ev = .err k e)) → st k.idx ≠ none) :
    runH (Gen.error_ignore_on_next ev) stores = (.ok (), stores, (idxStep (ignoreOp (α := Val)) st ev).2) :=
  error_ignore_impl.link st stores ev (fun k v he => hlive k (.inl ⟨v, he⟩)) (fun _ _ _ => trivial) fun k e he => by
    cases h : st k.idx with
    | none => exact absurd h (hlive k (.inr ⟨e, he⟩))
    | some u => simp only [idxStep, h]; exact fun _ => rfl

theorem error_map_impl (f : Err → Except Err Val) : OutImpl (mapErrOp f) (fun _ => True) (Gen.error_map_on_next f) :=
  ⟨fun _ _ _ _ => .emit _, fun _ => rfl, fun _ => rfl, fun _ => rfl, fun _ => rfl⟩

/-- `error.map`: a mux error of a live key becomes an item of that key in place; a raising mapper is `observer.on_error` -/
theorem LinkH_error_map (f : Err → Except Err Val) (st : Nat → Option Unit) (stores : Nat → Nat → Slot Val) (ev : Ev Val)
    (hlive : ∀ k, ((∃ v, ev = .next k v) ∨ (∃ e, ev = .err k e)) → st k.idx ≠ none) :
    runH (Gen.error_map_on_next f ev) stores = (.ok (), stores, (idxStep (mapErrOp f) st ev).2) :=
  (error_map_impl f).link st stores ev (fun k v he => hlive k (.inl ⟨v, he⟩)) (fun _ _ _ => trivial) fun k e he => by
    cases h : st k.idx with
    | none => exact absurd h (hlive k (.inr ⟨e, he⟩))
    | some u =>
      simp only [idxStep, h]
      intro _
      unfold Gen.error_map_on_next
      cases hf : f e <;> simp only [run_simps, mapErrOp, hf] <;> rfl

/-- **the error router** (`create_error_router()`'s operator, `on_next` generated from rxsci/error/router.py): while the errors
observable is subscribed, a mux error leaves the main stream — which then carries exactly what `error.ignore` lets through
(`idxStep ignoreOp`) — and its error is handed to the dead-letter observer, in order; every other event is forwarded untouched and
nothing else reaches the dead-letter observer. While nobody is subscribed to the errors observable the operator is the identity. -/
theorem LinkH_error_router (st : Nat → Option Unit) (s : HSt Val) (ev : Ev Val)
    (hlive : ∀ k, ((∃ v, ev = .next k v) ∨ (∃ e, ev = .err k e)) → st k.idx ≠ none) :
    runS (Gen.error_router_on_next true ev) s
        = (.ok (), { s with out := s.out ++ (idxStep (ignoreOp (α := Val)) st ev).2,
                            outer := s.outer ++ (match ev with | .err k e => [Ev.err k e] | _ => []) })
    ∧ runS (Gen.error_router_on_next false ev) s = (.ok (), { s with out := s.out ++ [ev] }) := by
  refine ⟨?_, by cases ev <;> rfl⟩
  cases ev with
  | next k v =>
    cases h : st k.idx with
    | none => exact absurd h (hlive k (.inl ⟨v, rfl⟩))
    | some u => simp only [idxStep, h, List.append_nil]; rfl
  | done k => cases h : st k.idx <;> simp only [idxStep, h, List.append_nil] <;> rfl
  | err k e =>
    cases h : st k.idx with
    | none => exact absurd h (hlive k (.inr ⟨e, rfl⟩))
    | some u => simp only [idxStep, h, ignoreOp, List.map_nil, List.append_nil]; rfl
  | _ => simp only [List.append_nil]; rfl

end Rx
