import RxModel.Lemmas.TeePlain
/-!
# C08 — tee_map equals running each branch independently and joining the results

`teeMux` is `_process_many.subscribe_mux`: the source is published, branches are served in order,
each branch output goes through `on_next(i, x)` of the join as it is produced.
`C08_decompose`: for every source event the tee's chunk is the join (`feedJoin`, in branch order) of
the chunks the branches emit **when run alone** on the same trace — branch states never interact
(`C08_branch_alone`: "run alone" is the branch's own run).
`C08_merge / C08_zip / C08_combine`: what the join does with one branch output, in the words of the
statement; `C08_lifecycle`: what it does with creations and completions.  `C08_plain`: on a plain
observable `tee_map` emits what the keyed one emits for one key.
-/
namespace Rx

/-- **decomposition**: the tee's output, source event by source event, is the join of what the
branches emit when each is run alone on the same input -/
theorem C08_decompose {α β γ} (mode : Join) (mk : List (Option β) → γ) (inj : β → γ) (ra : Bool)
    (b : Branches α β) (t : List (Ev α)) :
    (teeMux mode mk inj ra b).run t =
      joinRun mode b.length mk inj ra ⟨fun _ => none, fun _ => false⟩ (b.runAlone b.init t) :=
  tee_run_eq mode b.length mk inj ra b t b.init _

/-- the first branch run alone inside `runAlone` is just that branch's own run (`Branches.runAlone_cons` gives
all columns; this is the first) -/
theorem C08_branch_alone {α β} (Q : MuxOp α β) (r : Branches α β) (t : List (Ev α)) :
    ((Branches.cons Q r).runAlone (Branches.cons Q r).init t).map (fun cs => cs.headD []) = Q.run t := by
  rw [Branches.init, Branches.runAlone_cons, List.map_zipWith]
  exact (List.map_zipWith (f := Prod.fst) (g := Prod.mk)).symm.trans
    (List.map_fst_zip (Nat.le_of_eq ((runSteps_length ..).trans (Branches.runAlone_length ..).symm)))

/-- **merge**: every branch output is forwarded as it is produced (branch order per source event) -/
theorem C08_merge {β γ} (n : Nat) (mk : List (Option β) → γ) (inj : β → γ) (ra : Bool) (st : JoinSt β)
    (i : Nat) (k : Key) (x : β) :
    joinStep .merge n mk inj ra st i (.next k x) = (st, [.next k (inj x)]) := rfl

/-- **combine_latest**: on each branch output, the tuple of the latest value of every branch of that
key (`None` where a branch has not produced yet) -/
theorem C08_combine {β γ} (n : Nat) (mk : List (Option β) → γ) (inj : β → γ) (ra : Bool) (st : JoinSt β)
    (i : Nat) (k : Key) (x : β) :
    (joinStep .combine n mk inj ra st i (.next k x)).2 =
      [.next k (mk (sliceQ (fun j => if j = k.idx * n + i then some x else st.queue j) (k.idx * n) n))] := rfl

/-- **zip**: a tuple exactly when every branch of that key has produced a value since the last
tuple; the slots of the key are then emptied -/
theorem C08_zip {β γ} (n : Nat) (mk : List (Option β) → γ) (inj : β → γ) (ra : Bool) (st : JoinSt β)
    (i : Nat) (k : Key) (x : β) :
    let q := fun j => if j = k.idx * n + i then some x else st.queue j
    let h := fun j => if j = k.idx * n + i then true else st.has j
    (allHas h (k.idx * n) n = true →
      joinStep .zip n mk inj ra st i (.next k x) =
        (⟨clearQ q (k.idx * n) n, clearHas h (k.idx * n) n⟩, [.next k (mk (sliceQ q (k.idx * n) n))])) ∧
    (allHas h (k.idx * n) n = false →
      joinStep .zip n mk inj ra st i (.next k x) = (⟨q, h⟩, [])) :=
  ⟨fun hh => if_pos hh, fun hh => if_neg (hh ▸ Bool.false_ne_true)⟩

/-- creation is forwarded once (from branch 0), completion once (from the last branch), and — with
the repaired completion handler (`resetAll = true`, the literal `true` below; `Stage.mux` passes
`teeResetAll`, which is `true`) — every slot of the
key is reset, so nothing of a finished lifetime can reach the next one served by the same key index -/
theorem C08_lifecycle {β γ} (mode : Join) (n : Nat) (mk : List (Option β) → γ) (inj : β → γ) (st : JoinSt β)
    (i : Nat) (k : Key) :
    (joinStep mode n mk inj true st i (.create k)).2 = (if i = 0 then [.create k] else []) ∧
    (joinStep mode n mk inj true st i (.done k)).2 = (if i = n - 1 then [.done k] else []) ∧
    (i = n - 1 → mode ≠ .merge → ∀ j, k.idx * n ≤ j → j < k.idx * n + n →
      (joinStep mode n mk inj true st i (.done k)).1.queue j = none ∧
      (joinStep mode n mk inj true st i (.done k)).1.has j = false) := by
  refine ⟨rfl, ?_, fun hi hm => (joinStep_done_last mode n mk inj i k hi st).2.2 hm⟩
  by_cases hi : i = n - 1
  · rw [if_pos hi, (joinStep_done_last mode n mk inj i k hi st).1]
  · rw [if_neg hi, joinStep_done_not_last mode n mk inj true i k hi]

/-- **tee_map on a plain observable = tee_map per key**, chunk by chunk: for every join, every
number of branches ≥ 1 and all branches that never complete early and never raise in any state (`CleanOp`:
compositions of `mapOp` / `filterOp` / `scanOp` … whose user functions return no error on any item and
any accumulator), the plain
implementation (`_process_many.subscribe`) emits nothing at subscription, then for every source item
and at completion exactly what the keyed implementation emits for one key. -/
theorem C08_plain {α β γ} (mode : Join) (mk : List (Option β) → γ) (inj : β → γ) (lb : LBranches α β)
    (hc : lb.AllClean) (hn : 0 < lb.length) (xs : List α) :
    (teePlain mode mk inj (plainBranches lb)).run xs =
      ([] :: ((localTee mode mk inj lb).runL (localTee mode mk inj lb).init xs).1,
        ((localTee mode mk inj lb).runL (localTee mode mk inj lb).init xs).2) := by
  have hstart : (teePlain mode mk inj (plainBranches lb)).start = ([], false) :=
    Prod.ext (congrArg Prod.snd (startOuts_ofLocal mode mk inj lb 0 _)) ((congrArg _ (liftSt_init lb)).trans (liftSt_allDone lb _ hn))
  have hinit : (teePlain mode mk inj (plainBranches lb)).init =
      (liftSt lb lb.init, ⟨List.replicate lb.length none, List.replicate lb.length false⟩) :=
    Prod.ext (liftSt_init lb) ((congrArg Prod.fst (startOuts_ofLocal mode mk inj lb 0 _)).trans (by rw [plainBranches_length]))
  unfold PlainOp.run
  rw [hstart, hinit, tee_plain_run mode mk inj lb hc hn xs _ _ _ (PJRel.init mode lb.length)]
  rfl

/-- the plain tee computed on three branches (a filter, a running count that ignores the item `n`, the
identity) with the zip join: a tuple once every branch has produced since the last one -/
example : ((teePlain .zip (fun (l : List (Option Nat)) => l) (fun x => [some x])
    (plainBranches (.cons (filterOp (fun (n : Nat) => (Except.ok (n % 2 == 1) : Except Err Bool)) id)
      (.cons (scanOp (fun (a n : Nat) => (Except.ok (a + 1) : Except Err Nat)) 0 false none) (.cons idLocal .nil))))).run [1, 2, 3]).1 =
    [[], [.item [some 1, some 1, some 1]], [], [.item [some 3, some 2, some 2]]] := rfl

end Rx
