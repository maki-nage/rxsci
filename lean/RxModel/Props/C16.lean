import RxModel.Lemmas.Compress
/-!
# C16 — compression round-trips under re-chunking and flags truncated streams

Proved for rxsci's wrapper logic, **modulo the library contract** `CodecContract` (what zlib /
zstandard streaming objects are assumed to do; the harness tests it on the real libraries).
-/
namespace Rx

/-- compress: one item per input chunk, then the flush item, then completion (when the library does
not raise).  The hypothesis `∀ i, i < xs.length → True` is trivially true and not used. -/
theorem C16_compress_shape (K : StreamCodec) :
    ∀ (xs : List Bytes) (c : K.C) (outs : List Bytes) (fl : Bytes),
      (∀ (i : Nat) (_ : i < xs.length), True) →
      compressRun K c xs = outs.map WEv.next ++ [.next fl, .completed] →
      outs.length = xs.length := by
  intro xs c outs fl _ h
  have hl := compressRun_length K c xs (by rw [h]; simp)
  rw [h] at hl
  simpa using hl

theorem decompress_fed (K : StreamCodec) (skip : Bool) (cs : List Bytes) {d d' : K.D} {o : Bytes}
    (h : dfeed K d (cs.filter fun c => !(skip && c.isEmpty)) = .ok (d', o)) :
    ∃ outs : List Bytes, decompressRun K skip d cs = outs.map .next ++ decompressRun K skip d' [] ∧ outs.flatten = o := by
  induction cs generalizing d o with
  | nil => cases h; exact ⟨[], rfl, rfl⟩
  | cons c cs ih =>
    rw [List.filter_cons] at h
    rw [decompressRun_cons]
    -- a skipped chunk is answered with an empty item and is not among the pieces fed; any other chunk
    -- is the first piece
    cases hc : skip && c.isEmpty with
    | true =>
      rw [hc] at h
      obtain ⟨outs, h1, h2⟩ := ih h
      exact ⟨[] :: outs, congrArg (_ :: ·) h1, h2⟩
    | false =>
      rw [hc] at h
      obtain ⟨d1, o1, o2, hd, hr, rfl⟩ := dfeed_cons h
      obtain ⟨outs, h1, h2⟩ := ih hr
      exact ⟨o1 :: outs, by rw [if_neg Bool.false_ne_true, hd]; exact congrArg (_ :: ·) h1, by rw [List.flatten_cons, h2]⟩

theorem filter_skip_flatten (skip : Bool) (cs : List Bytes) :
    (cs.filter fun c => !(skip && c.isEmpty)).flatten = cs.flatten := by
  cases skip
  · exact congrArg List.flatten (List.filter_eq_self.mpr fun _ _ => rfl)
  · exact List.flatten_filter_not_isEmpty

theorem filter_nonempty_ok (cs : List Bytes) : ∀ p ∈ cs.filter (fun c => !c.isEmpty), p ≠ [] := by
  intro p hp h
  simp [h] at hp

/-- `CodecContract.whole` seen through either wrapper -/
theorem decompress_whole (K : StreamCodec) (skip : Bool) {ok : Bytes → Prop} {z plain : Bytes}
    (hK : CodecContract K ok z plain) (cs : List Bytes)
    (hok : ∀ p ∈ cs.filter (fun c => !(skip && c.isEmpty)), ok p) (hcs : cs.flatten = z) :
    payload (decompressRun K skip K.dinit cs) = plain ∧
    completedOK (decompressRun K skip K.dinit cs) = true ∧
    failed (decompressRun K skip K.dinit cs) = false := by
  obtain ⟨d, h1, h2, h3⟩ := hK.whole _ hok (by rw [filter_skip_flatten, hcs])
  obtain ⟨outs, e1, e2⟩ := decompress_fed K skip cs h1
  have hfin : decompressRun K skip d [] = [.next [], .completed] := by simp [decompressRun, h2, h3]
  rw [e1, hfin, payload_next, failed_next, e2]
  exact ⟨by simp [payload], by simp [completedOK], rfl⟩

/-- **round trip under any re-chunking** (zstd wrapper, repaired: `skipEmpty = true`): however the
compressed bytes `z` are cut into chunks — empty chunks included, also after the end of the frame —
the wrapper emits items whose concatenation is exactly `plain`, then completes, with no error -/
theorem C16_roundtrip (K : StreamCodec) (z plain : Bytes)
    (hK : CodecContract K (fun p => p ≠ []) z plain) (cs : List Bytes) (hcs : cs.flatten = z) :
    payload (decompressRun K true K.dinit cs) = plain ∧
    completedOK (decompressRun K true K.dinit cs) = true ∧
    failed (decompressRun K true K.dinit cs) = false :=
  decompress_whole K true hK cs (filter_nonempty_ok cs) hcs

/-- **truncation is flagged**: if the compressed stream stops before its end-of-stream marker,
however it is chunked, the wrapper ends with `on_error` and never completes -/
theorem C16_truncated (K : StreamCodec) (z plain : Bytes)
    (hK : CodecContract K (fun p => p ≠ []) z plain) (cs : List Bytes) (rest : Bytes)
    (hrest : rest ≠ []) (hcs : cs.flatten ++ rest = z) :
    completedOK (decompressRun K true K.dinit cs) = false ∧
    (decompressRun K true K.dinit cs).getLast? = some (.error "RuntimeError") := by
  obtain ⟨d, o, h1, h2⟩ := hK.prefix_ _ (filter_nonempty_ok cs)
    ⟨rest, hrest, (congrArg (· ++ rest) (filter_skip_flatten true cs)).trans hcs⟩
  obtain ⟨outs, e1, _⟩ := decompress_fed K true cs h1
  have hfin : decompressRun K true d [] = [.error "RuntimeError"] := by simp [decompressRun, h2]
  rw [e1, hfin]
  simp [completedOK]

/-- the zlib wrapper (no special case for empty chunks) under the contract in which the library
accepts every piece: the payload and the completion of `C16_roundtrip` -/
theorem C16_roundtrip_zlib (K : StreamCodec) (z plain : Bytes)
    (hK : CodecContract K (fun _ => True) z plain) (cs : List Bytes) (hcs : cs.flatten = z) :
    payload (decompressRun K false K.dinit cs) = plain ∧
    completedOK (decompressRun K false K.dinit cs) = true :=
  have h := decompress_whole K false hK cs (fun _ _ => trivial) hcs
  ⟨h.1, h.2.1⟩

/-! The contract can be met: a toy codec satisfies it for every plain text (`C16_nonvacuous`). -/

/-- the step on one byte that `toyFeed` unrolls; it is not used below -/
def toyStep (st : Bool × Bytes) (b : Nat) : Except String (Bool × Bytes) :=
  if st.1 then .error "after-eof" else if b = 0 then .ok (true, st.2) else .ok (false, st.2 ++ [b - 1])

/-- the toy decompressor: payload bytes are stored as `b+1`, the stream ends with a `0`; anything after
the end is an error -/
def toyFeed : Bool → Bytes → Except String (Bool × Bytes)
  | eof, [] => .ok (eof, [])
  | eof, b :: r =>
    if eof then .error "after-eof"
    else if b = 0 then (match toyFeed true r with | .ok (e, o) => .ok (e, o) | .error x => .error x)
    else (match toyFeed false r with | .ok (e, o) => .ok (e, (b - 1) :: o) | .error x => .error x)

@[reducible] def toyCodec : StreamCodec where
  C := Unit
  D := Bool
  cinit := ()
  compress := fun _ x => .ok ((), x.map (· + 1))
  cflush := fun _ => .ok [0]
  dinit := false
  decompress := toyFeed
  eof := id
  dflush := fun _ => .ok []

theorem toyFeed_append (a b : Bytes) (e : Bool) :
    toyFeed e (a ++ b) =
      match toyFeed e a with
      | .error x => .error x
      | .ok (e1, o1) => match toyFeed e1 b with | .error x => .error x | .ok (e2, o2) => .ok (e2, o1 ++ o2) := by
  induction a generalizing e with
  | nil => simp only [List.nil_append, toyFeed]; cases toyFeed e b <;> rfl
  | cons x a ih =>
    cases e
    · -- either way the head only wraps the result for the tail
      simp only [List.cons_append, toyFeed, Bool.false_eq_true, if_false, ih]
      split <;> cases toyFeed _ a with
        | error y => rfl
        | ok r => dsimp only; cases toyFeed r.1 b <;> rfl
    · rfl

theorem toy_dfeed (ps : List Bytes) (e : toyCodec.D) : dfeed toyCodec e ps = toyFeed e ps.flatten := by
  induction ps generalizing e with
  | nil => rfl
  | cons p ps ih =>
    rw [List.flatten_cons, toyFeed_append, dfeed, show toyCodec.decompress e p = toyFeed e p from rfl]
    cases toyFeed e p with
    | error x => rfl
    | ok r =>
      simp only [ih]
      cases toyFeed r.1 ps.flatten <;> rfl

theorem toyFeed_plain (plain : Bytes) : toyFeed false (plain.map (· + 1)) = .ok (false, plain) := by
  induction plain with
  | nil => rfl
  | cons b r ih => simp [toyFeed, ih]

/-- the toy codec satisfies, for every plain text, the contract `C16_roundtrip_zlib` assumes.  The
contract with `fun p => p ≠ []` that `C16_roundtrip`, `C16_truncated` and `C19_roundtrip_compressed`
assume follows from it, since it quantifies over fewer piece lists. -/
theorem C16_nonvacuous (plain : Bytes) :
    CodecContract toyCodec (fun _ => True) (plain.map (· + 1) ++ [0]) plain := by
  constructor
  · intro ps _ hps
    refine ⟨true, ?_, rfl, rfl⟩
    refine (toy_dfeed ps toyCodec.dinit).trans ?_
    rw [hps, toyFeed_append, toyFeed_plain]
    simp [toyFeed]
  · rintro ps _ ⟨rest, hne, hcat⟩
    -- a strict prefix of `encoded ++ [0]` is the encoding of a prefix
    rcases List.eq_nil_or_concat rest with rfl | ⟨r', x, rfl⟩
    · exact absurd rfl hne
    · rw [List.concat_eq_append, ← List.append_assoc] at hcat
      obtain ⟨l₁, l₂, -, h1, -⟩ := List.map_eq_append_iff.mp (List.append_singleton_inj.mp hcat).1.symm
      exact ⟨false, l₁, (toy_dfeed ps false).trans (by rw [← h1, toyFeed_plain]), rfl⟩

end Rx
