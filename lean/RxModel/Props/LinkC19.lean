import RxGen.Text
/-!
# C19 link theorems: the json container's own logic (rxsci/container/json.py), generated by `generate_json`

`loads` / `dumps` stay parameters (the serializer is a library contract). What is generated is what rxsci adds: `load_json` (empty
lines, error handling), the composition `skip → map(load_json) → filter(is not None)`, and `dump`'s `on_next`.
-/
namespace Rx

/-- **`load_json`** (generated from rxsci/container/json.py): nothing for an empty line; otherwise `loads`, whose exception is
re-raised — or swallowed, giving nothing, with `ignore_error=True` -/
theorem Link_json_load_json {σ J : Type} (loads : List σ → Except Err (Option J)) (ign : Bool) (i : List σ) :
    Gen.json_load_json loads ign i
      = if i = [] then .ok none
        else match loads i with
          | .ok r => .ok r
          | .error e => if ign then .ok none else .error e := by
  cases i with
  | nil => rfl
  | cons a r =>
    unfold Gen.json_load_json
    rw [if_pos (show (a :: r).length > 0 from Nat.zero_lt_succ _), if_neg (List.cons_ne_nil a r)]
    cases loads (a :: r) <;> cases ign <;> rfl

theorem json_load_json_false {σ J : Type} (loads : List σ → Except Err (Option J)) (i : List σ) :
    Gen.json_load_json loads false i = if i = [] then pure none else loads i := by
  rw [Link_json_load_json]
  split
  · rfl
  · cases loads i <;> rfl

/-- **`json.load`** (`skip`, `map(load_json)`, `filter(is not None)`, generated as a function of the list of lines), without
`ignore_error`: `loads` is applied to exactly the non-empty lines after the skipped ones, in order — the lines
`jsonReadLines` hands over (`… .filter (· ≠ [])`) — and the JSON nulls among the results are dropped -/
theorem Link_json_load {σ J : Type} [DecidableEq σ] (loads : List σ → Except Err (Option J)) (skip : Nat) (lines : List (List σ)) :
    Gen.json_load loads false skip lines
      = (((lines.drop skip).filter (fun l => l ≠ [])).mapM loads).map (List.filterMap id) := by
  unfold Gen.json_load
  generalize lines.drop skip = ls
  induction ls with
  | nil => rfl
  | cons l ls ih =>
    rw [List.mapM_cons, json_load_json_false, bind_assoc]
    by_cases h : l = []
    · rw [if_pos h, pure_bind, List.filter_cons_of_neg (p := fun l : List σ => decide (l ≠ [])) fun hd => of_decide_eq_true hd h, ← ih]
      cases List.mapM (Gen.json_load_json loads false) ls <;> rfl
    · have key : ∀ (x : Option J) (C : Except Err (List (Option J))),
          (C >>= fun xs => pure (List.filterMap id (x :: xs))) = (x.toList ++ ·) <$> (C >>= fun xs => pure (xs.filterMap id)) := by
        intro x C; cases x <;> cases C <;> rfl
      rw [if_neg h, List.filter_cons_of_pos (p := fun l : List σ => decide (l ≠ [])) (decide_eq_true h), List.mapM_cons]
      simp only [bind_assoc, pure_bind, key, ih]
      cases loads l with
      | error e => rfl
      | ok x =>
        cases List.mapM loads (List.filter (fun l => decide (l ≠ [])) ls) with
        | error e => rfl
        | ok w => cases x <;> rfl

/-- **`json.dump`'s `on_next`** (generated): the serialized object followed by the newline — the lines `jsonWriteBytes` encodes -/
theorem Link_json_dump {J : Type} (dumps : J → List Nat) (objs : List J) :
    objs.map (Gen.json_dump_on_next dumps [10]) = (objs.map dumps).map (· ++ [10]) :=
  (List.map_map (g := (· ++ [10])) (f := dumps)).symm

end Rx
