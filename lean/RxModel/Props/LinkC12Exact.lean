import RxGen.Kernels
import RxModel.NVal
import RxModel.Props.C12
import RxModel.Lemmas.RunM
/-!
# C12 link theorems (2): the numeric theorems, proved ABOUT THE GENERATED CODE in exact arithmetic

`Gen.*` are the definitions harness/pygen.py generates from `rxsci/math/*.py`; here they are instantiated at
`NVal` (Python values whose numbers are exact rationals).  The `Exact_*` theorems: scanning the generated accumulator from
the seed the source passes to `scan` and applying the generated result lambda yields the mathematically exact statistic of the
items, for every sequence.  Each proof has two steps: the generated kernel, run on exact numbers, computes the kernel of
RxModel/Numeric.lean at `ℚ` (a left sum `sumK`, Welford's `wfold` / `wvar` through the encoding `encW`, `fvarK`), which is
structural; that this is the statistic is the theorem of Props/C12.lean.  Numeric.lean has no minimum or maximum:
`extremum_fold` does both steps for `Exact_min` / `Exact_max`.
-/
namespace Rx

/-! what the operations of `PyAlg` compute at `NVal` on values of known shape, named `n<operation>` (Lemmas/PyValLemmas.lean has the
same facts at `Val`, named `<operation>_<shape>`) -/

theorem nadd (a b : ℚ) : (PyAlg.add (NVal.num a) (NVal.num b) : Except Err NVal) = .ok (.num (a + b)) := rfl
theorem nsub (a b : ℚ) : (PyAlg.sub (NVal.num a) (NVal.num b) : Except Err NVal) = .ok (.num (a - b)) := rfl
theorem nmul (a b : ℚ) : (PyAlg.mul (NVal.num a) (NVal.num b) : Except Err NVal) = .ok (.num (a * b)) := rfl
theorem ndiv (a b : ℚ) (h : b ≠ 0) : (PyAlg.div (NVal.num a) (NVal.num b) : Except Err NVal) = .ok (.num (a / b)) :=
  if_neg h
theorem nlt (a b : ℚ) : (PyAlg.lt (NVal.num a) (NVal.num b) : Except Err Bool) = .ok (decide (a < b)) := rfl
theorem nint (i : Int) : (PyAlg.int i : NVal) = .num i := rfl
theorem nflit0 : (PyAlg.flit 0 1 : NVal) = .num 0 := by
  show NVal.num _ = _
  rw [Int.cast_zero, zero_div]
theorem ntup (l : List NVal) : (PyAlg.tup l : NVal) = .tup l := rfl
theorem nnone : (PyAlg.none : NVal) = .none := rfl
theorem nnth_tup (l : List NVal) (i : Nat) : (PyAlg.nth (NVal.tup l) i : NVal) = l.getD i .none := rfl
theorem nisNone_num (a : ℚ) : PyAlg.isNone (NVal.num a) = false := rfl
theorem nisNone_none : PyAlg.isNone (NVal.none) = true := rfl
theorem nisNone_tup (l) : PyAlg.isNone (NVal.tup l) = false := rfl
theorem nlst (l : List NVal) : (PyAlg.lst l : NVal) = .lst l := rfl
theorem nelems_lst (l : List NVal) : (PyAlg.elems (NVal.lst l) : Except Err (List NVal)) = .ok l := rfl
theorem nlen_lst (l : List NVal) : (PyAlg.len (NVal.lst l) : Except Err NVal) = .ok (.num l.length) := rfl
theorem nappend_lst (l : List NVal) (x : NVal) : (PyAlg.append (NVal.lst l) x : Except Err NVal) = .ok (.lst (l ++ [x])) := rfl

def idKey : NVal → Except Err NVal := fun v => .ok v

theorem sum_step_exact (a x : ℚ) : Gen.sum_accumulate idKey (NVal.num a) (NVal.num x) = .ok (.num (a + x)) := rfl

theorem sum_fold_exact (xs : List ℚ) (a : ℚ) :
    (xs.map NVal.num).foldlM (Gen.sum_accumulate idKey) (NVal.num a) = .ok (.num (xs.foldl (· + ·) a)) := by
  induction xs generalizing a with
  | nil => rfl
  | cons x xs ih => simp only [List.map_cons, List.foldlM_cons, sum_step_exact, ok_bind, ih, List.foldl_cons]

/-- **sum, exact**: the accumulator generated from `rxsci/math/sum.py`, run over any sequence from the
seed `0.0` in exact arithmetic, ends with the mathematical sum -/
theorem Exact_sum (xs : List ℚ) :
    (xs.map NVal.num).foldlM (Gen.sum_accumulate idKey) (PyAlg.flit 0 1) = .ok (.num xs.sum) := by
  rw [nflit0, sum_fold_exact]
  exact congrArg (fun q => Except.ok (NVal.num q)) (C12_sum xs)

theorem mean_step_exact (a c x : ℚ) :
    Gen.mean_accumulate idKey (NVal.tup [.num a, .num c]) (NVal.num x) = .ok (.tup [.num (a + x), .num (c + 1)]) :=
  congrArg (fun q => Except.ok (NVal.tup [.num (a + x), .num (c + q)])) Int.cast_one

theorem mean_fold_exact (xs : List ℚ) (a c : ℚ) :
    (xs.map NVal.num).foldlM (Gen.mean_accumulate idKey) (NVal.tup [.num a, .num c])
      = .ok (.tup [.num (xs.foldl (· + ·) a), .num (c + xs.length)]) := by
  induction xs generalizing a c with
  | nil => simp only [List.length_nil, Nat.cast_zero, add_zero]; rfl
  | cons x xs ih =>
    simp only [List.map_cons, List.foldlM_cons, mean_step_exact, ok_bind, ih, List.foldl_cons, List.length_cons, Nat.cast_succ, add_assoc,
      add_comm (1 : ℚ)]

/-- **mean, exact**: scan with the generated accumulator from `(0, 0)`, then the generated result lambda -/
theorem Exact_mean (xs : List ℚ) (h : xs ≠ []) :
    ((xs.map NVal.num).foldlM (Gen.mean_accumulate idKey) (PyAlg.tup [PyAlg.int 0, PyAlg.int 0]) >>= Gen.mean_result)
      = .ok (.num (xs.sum / xs.length)) := by
  have hl : (xs.length : ℚ) ≠ 0 := Nat.cast_ne_zero.mpr (mt List.length_eq_zero_iff.mp h)
  simp only [ntup, nint, Int.cast_zero, mean_fold_exact, ok_bind, Gen.mean_result, nisNone_tup, Bool.not_false, if_true, nnth_tup,
    List.getD_cons_zero, List.getD_cons_succ, zero_add, ndiv _ _ hl]
  exact congrArg (fun q => Except.ok (NVal.num q)) (C12_mean xs)

/-- the scan state `(m, s, k)` of `rxsci/math/variance.py` as an exact value -/
def encW : Option (WSt ℚ) → NVal
  | Option.none => NVal.tup [NVal.none, NVal.num 0, NVal.num 0]
  | Option.some st => NVal.tup [NVal.num st.m, NVal.num st.s, NVal.num st.k]

theorem variance_step_exact (st : Option (WSt ℚ)) (x : ℚ) :
    Gen.variance_accumulate idKey (encW st) (NVal.num x) = .ok (encW (some (wstep st x))) := by
  cases st <;>
    simp only [Gen.variance_accumulate, idKey, ok_bind, encW, wstep, nnth_tup, List.getD_cons_zero, List.getD_cons_succ, nint, nadd, nsub,
      nmul, ndiv _ _ (Nat.cast_add_one_ne_zero _), nisNone_none, nisNone_num, Bool.false_eq_true, if_true, if_false, ntup, Int.cast_one,
      zero_add, Nat.cast_add, Nat.cast_one] <;>
    rfl

theorem variance_fold_exact (xs : List ℚ) (st : Option (WSt ℚ)) :
    (xs.map NVal.num).foldlM (Gen.variance_accumulate idKey) (encW st) = .ok (encW (wfold st xs)) := by
  induction xs generalizing st with
  | nil => rfl
  | cons x xs ih => simp only [List.map_cons, List.foldlM_cons, variance_step_exact, ok_bind, ih, wfold]

theorem variance_result_exact (st : Option (WSt ℚ)) : Gen.variance_result (encW st) = .ok (.num (wvar st)) := by
  cases st with
  | none =>
    simp only [Gen.variance_result, encW, wvar, ok_bind, nnth_tup, List.getD_cons_zero, List.getD_cons_succ, nint, nlt, Int.cast_ofNat,
      zero_lt_two, decide_true, if_true, nflit0]
    rfl
  | some st =>
    simp only [Gen.variance_result, encW, wvar_some, ok_bind, nnth_tup, List.getD_cons_zero, List.getD_cons_succ, nint, nlt, Int.cast_ofNat,
      Int.cast_one, nsub, Nat.cast_lt_ofNat, decide_eq_true_eq, nflit0]
    split
    · rfl
    · next h => exact ndiv _ _ (sub_ne_zero.mpr (Nat.cast_ne_one.mpr (Nat.ne_of_gt (Nat.lt_of_lt_of_le Nat.one_lt_two (Nat.le_of_not_lt h)))))

/-- **variance, exact**: the generated Welford accumulator scanned from `(None, 0, 0)` over any sequence, followed by the
generated result lambda, yields the sample variance (n−1), and 0 for fewer than two items -/
theorem Exact_variance (xs : List ℚ) :
    ((xs.map NVal.num).foldlM (Gen.variance_accumulate idKey) (PyAlg.tup [PyAlg.none, PyAlg.int 0, PyAlg.int 0])
        >>= Gen.variance_result)
      = .ok (.num (if xs.length < 2 then 0
          else (sumsq xs - xs.length * (xs.sum / xs.length) * (xs.sum / xs.length)) / ((xs.length : ℚ) - 1))) := by
  have h0 : (PyAlg.tup [PyAlg.none, PyAlg.int 0, PyAlg.int 0] : NVal) = encW none :=
    congrArg (fun q => NVal.tup [.none, .num q, .num q]) Int.cast_zero
  rw [h0, variance_fold_exact, ok_bind, variance_result_exact, C12_variance]

def encO : Option ℚ → NVal
  | Option.none => NVal.none
  | Option.some a => NVal.num a

theorem min_step_exact (a : Option ℚ) (x : ℚ) :
    Gen.min_accumulate idKey (encO a) (NVal.num x)
      = .ok (encO (some (match a with | Option.none => x | Option.some m => if x < m then x else m))) := by
  cases a with
  | none => rfl
  | some m =>
    simp only [Gen.min_accumulate, idKey, ok_bind, encO, nisNone_num, Bool.false_eq_true, if_false, nlt, decide_eq_true_eq]
    split <;> rfl

theorem max_step_exact (a : Option ℚ) (x : ℚ) :
    Gen.max_accumulate idKey (encO a) (NVal.num x)
      = .ok (encO (some (match a with | Option.none => x | Option.some m => if m < x then x else m))) := by
  cases a with
  | none => rfl
  | some m =>
    simp only [Gen.max_accumulate, idKey, ok_bind, encO, nisNone_num, Bool.false_eq_true, if_false, nlt, decide_eq_true_eq]
    split <;> rfl

/-- an accumulator that keeps the new item when it beats the kept one (`lt x m`), for a test `lt` whose negation is a preorder:
after a non-empty sequence it holds an element of the sequence that nothing beats -/
theorem extremum_fold (F : NVal → NVal → Except Err NVal) (lt : ℚ → ℚ → Prop) [DecidableRel lt]
    (hirr : ∀ a, ¬ lt a a) (hasym : ∀ a b, lt a b → ¬ lt b a) (htr : ∀ a b c, ¬ lt b a → ¬ lt c b → ¬ lt c a)
    (hstep : ∀ (a : Option ℚ) (x : ℚ), F (encO a) (NVal.num x)
      = .ok (encO (some (match a with | Option.none => x | Option.some m => if lt x m then x else m))))
    (xs : List ℚ) (a : Option ℚ) :
    ∃ r, (xs.map NVal.num).foldlM F (encO a) = .ok (encO r) ∧
      (∀ m, r = some m → (m ∈ xs ∨ a = some m) ∧ (∀ x ∈ xs, ¬ lt x m) ∧ (∀ b, a = some b → ¬ lt b m)) ∧
      (r = Option.none → xs = [] ∧ a = Option.none) := by
  induction xs generalizing a with
  | nil =>
    refine ⟨a, rfl, fun m hm => ⟨Or.inr hm, fun _ h => (nomatch h), fun b hb => ?_⟩, fun h => ⟨rfl, h⟩⟩
    rw [Option.some.inj (hb.symm.trans hm)]
    exact hirr m
  | cons x xs ih =>
    -- `p`, the value kept after `x`, is `x` or the value kept before, and neither beats it
    obtain ⟨p, hp, hpx, hpa, hpm⟩ : ∃ p, (match a with | Option.none => x | Option.some m => if lt x m then x else m) = p ∧
        ¬ lt x p ∧ (∀ b, a = some b → ¬ lt b p) ∧ (p = x ∨ a = some p) := by
      cases a with
      | none => exact ⟨x, rfl, hirr x, fun _ h => (nomatch h), Or.inl rfl⟩
      | some m =>
        by_cases h : lt x m
        · exact ⟨x, if_pos h, hirr x, fun b hb => Option.some.inj hb ▸ hasym x m h, Or.inl rfl⟩
        · exact ⟨m, if_neg h, h, fun b hb => Option.some.inj hb ▸ hirr m, Or.inr rfl⟩
    obtain ⟨r, hr, h1, h2⟩ := ih (some p)
    refine ⟨r, by rw [List.map_cons, List.foldlM_cons, hstep, ok_bind, hp, hr], fun m hm => ?_, fun h => nomatch (h2 h).2⟩
    obtain ⟨hmem, hle, hb⟩ := h1 m hm
    have hmp : ¬ lt p m := hb p rfl
    refine ⟨?_, fun y hy => ?_, fun b hb' => htr m p b hmp (hpa b hb')⟩
    · rcases hmem with h | h
      · exact Or.inl (List.mem_cons_of_mem _ h)
      · rw [← Option.some.inj h]
        exact hpm.imp (fun h' : p = x => h' ▸ List.mem_cons_self) id
    · rcases List.mem_cons.mp hy with h | h
      · exact h ▸ htr m p x hmp hpx
      · exact hle y h

/-- **min, exact**: after a non-empty sequence the generated accumulator holds an element of the sequence that is
a lower bound of it -/
theorem Exact_min (xs : List ℚ) (a : Option ℚ) :
    ∃ r, (xs.map NVal.num).foldlM (Gen.min_accumulate idKey) (encO a) = .ok (encO r) ∧
      (∀ m, r = some m → (m ∈ xs ∨ a = some m) ∧ (∀ x ∈ xs, m ≤ x) ∧ (∀ b, a = some b → m ≤ b)) ∧
      (r = Option.none → xs = [] ∧ a = Option.none) := by
  simpa only [not_lt] using extremum_fold (Gen.min_accumulate idKey) (· < ·) lt_irrefl (fun _ _ => lt_asymm)
    (fun a b c h1 h2 => not_lt.mpr (le_trans (not_lt.mp h1) (not_lt.mp h2))) min_step_exact xs a

/-- **max, exact**: after a non-empty sequence the generated accumulator holds an element of the sequence that is
an upper bound of it -/
theorem Exact_max (xs : List ℚ) (a : Option ℚ) :
    ∃ r, (xs.map NVal.num).foldlM (Gen.max_accumulate idKey) (encO a) = .ok (encO r) ∧
      (∀ m, r = some m → (m ∈ xs ∨ a = some m) ∧ (∀ x ∈ xs, x ≤ m) ∧ (∀ b, a = some b → b ≤ m)) ∧
      (r = Option.none → xs = [] ∧ a = Option.none) := by
  simpa only [not_lt] using extremum_fold (Gen.max_accumulate idKey) (fun x m => m < x) lt_irrefl (fun _ _ => lt_asymm)
    (fun a b c h1 h2 => not_lt.mpr (le_trans (not_lt.mp h2) (not_lt.mp h1))) max_step_exact xs a

theorem ratPow_eq (a : ℚ) (k : ℕ) : NVal.ratPow a k = a ^ k := by
  induction k with
  | zero => exact (pow_zero a).symm
  | succ k ih => rw [NVal.ratPow, ih, pow_succ]

theorem npow_nat (a : ℚ) (n : ℕ) : (PyAlg.pow (NVal.num a) (NVal.num (n : ℚ)) : Except Err NVal) = .ok (.num (a ^ n)) := by
  show NVal.pow _ _ = _
  simp only [NVal.pow, Rat.den_natCast, Rat.num_natCast, Int.natCast_nonneg, and_self, if_true, Int.toNat_natCast, ratPow_eq]

theorem nsum_nums (xs : List ℚ) (a : ℚ) : NVal.sumList (.num a) (xs.map NVal.num) = .ok (.num (xs.foldl (· + ·) a)) := by
  induction xs generalizing a with
  | nil => rfl
  | cons x xs ih => exact ih (a + x)

theorem nsum_lst (xs : List ℚ) : (PyAlg.sum (NVal.lst (xs.map NVal.num)) : Except Err NVal) = .ok (.num (sumK xs)) :=
  nsum_nums xs 0

/-- the `for` loop of `_moment` in exact arithmetic -/
theorem moment_loop_exact (c : ℚ) (n : ℕ) (xs : List ℚ) (m0 : List NVal) :
    (forIn (xs.map NVal.num) (NVal.lst m0) (fun x_i r => do
        let t2 ← PyAlg.sub x_i (NVal.num c)
        let t3 ← PyAlg.pow t2 (NVal.num (n : ℚ))
        let t4 ← PyAlg.append r t3
        pure (ForInStep.yield t4)) : Except Err NVal)
      = .ok (.lst (m0 ++ (xs.map fun x => (x - c) ^ n).map NVal.num)) := by
  induction xs generalizing m0 with
  | nil => simp only [List.map_nil, List.forIn_nil, List.append_nil]; rfl
  | cons x xs ih =>
    simp only [List.map_cons, List.forIn_cons, nsub, ok_bind, npow_nat, nappend_lst, pure_bind, ih, List.append_assoc,
      List.singleton_append]

theorem moment_exact (xs : List ℚ) (c : ℚ) (n : ℕ) (h : xs ≠ []) :
    Gen.moment (NVal.lst (xs.map NVal.num)) (NVal.num c) (NVal.num (n : ℚ))
      = .ok (.num (sumK (xs.map fun x => (x - c) ^ n) / xs.length)) := by
  have hn : xs.length ≠ 0 := mt List.length_eq_zero_iff.mp h
  have hloop := moment_loop_exact c n xs []
  rw [List.nil_append] at hloop
  simp only [Gen.moment, nlst, nelems_lst, ok_bind, hloop, nlen_lst, nint, nlt, List.length_map, nsum_lst, Int.cast_zero, Nat.cast_pos,
    Nat.pos_of_ne_zero hn, decide_true, if_true, ndiv _ _ (Nat.cast_ne_zero.mpr hn)]

/-- `_moment` with exponents 1 and 2 are `meanK` and `moment2K` -/
theorem fvariance_result_exact (xs : List ℚ) : Gen.fvariance_result (NVal.lst (xs.map NVal.num)) = .ok (.num (fvarK xs)) := by
  by_cases h : xs = []
  · subst h; exact congrArg Except.ok nflit0
  · have hl : xs.length ≠ 0 := mt List.length_eq_zero_iff.mp h
    have he : PyAlg.eq (NVal.num (xs.length : ℚ)) (NVal.num 0) = false :=
      (NVal.beq.eq_3 _ _).trans (beq_eq_false_iff_ne.mpr (Nat.cast_ne_zero.mpr hl))
    have h1 := moment_exact xs 0 1 h
    have h2 := moment_exact xs (meanK xs) 2 h
    simp only [Nat.cast_one, Nat.cast_ofNat, sub_zero, pow_one, List.map_id', pow_two] at h1 h2
    simp only [Gen.fvariance_result, nlen_lst, ok_bind, List.length_map, nint, Int.cast_zero, Int.cast_one, Int.cast_ofNat, he,
      Bool.false_eq_true, if_false, h1, bind_pure, fvarK, hl]
    exact h2

/-- **formal variance, exact**: the generated `_variance` over the list the scan has collected is the population variance -/
theorem Exact_formal_variance (xs : List ℚ) :
    Gen.fvariance_result (NVal.lst (xs.map NVal.num))
      = .ok (.num (if xs.length = 0 then 0
          else (xs.map (fun x => (x - xs.sum / xs.length) * (x - xs.sum / xs.length))).sum / xs.length)) := by
  rw [fvariance_result_exact, C12_formal]

/-- the formal accumulator collects the items -/
theorem fvariance_fold (xs : List ℚ) (l : List NVal) :
    (xs.map NVal.num).foldlM (Gen.fvariance_accumulate idKey) (NVal.lst l) = .ok (.lst (l ++ xs.map NVal.num)) := by
  induction xs generalizing l with
  | nil => simp only [List.map_nil, List.foldlM_nil, List.append_nil]; rfl
  | cons x xs ih =>
    simp only [List.map_cons, List.foldlM_cons, Gen.fvariance_accumulate, idKey, ok_bind, nappend_lst, bind_pure, ih,
      List.append_assoc, List.singleton_append]
end Rx
