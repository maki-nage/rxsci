import RxModel.Store
/-!
# C14 — the memory state store behaves as an isolated per-index typed map

`MemStore` is L0: the parallel arrays `values / state / keys` of `MemoryStore`, the marker
discipline, growth by `append`, typed coercion.  `abs` maps it to the abstract per-index map of the
statement; `get`, `set`, `add_key` and `add_map` are characterised on that map (`del_key` through
`C14_del_add`, `get_map` / `iterate_map` right after an `add_map`), and no operation on one index
changes another index of the allocated range.
What an operation on index `i` may do to the store is the relation `MemStore.Upd i` (one `*_upd`
lemma per operation, `apply_upd` for all of them): the invariant, the frame property and the
monotone counter are its fields.
-/
namespace Rx

inductive ASlot where
  | absent            -- beyond the arrays (never allocated): reading it is an IndexError
  | cleared           -- allocated, not in use (growth padding, or deleted)
  | notset            -- added, never written
  | set (v : Val)     -- holds `v` (already coerced to the declared type)
  deriving DecidableEq

def MemStore.abs (s : MemStore) (i : Nat) : ASlot :=
  match s.state[i]? with
  | none => .absent
  | some .cleared => .cleared
  | some .notset => .notset
  | some .set => .set (s.values.getD i s.dtype.zero)

/-- the arrays stay parallel -/
def MemStore.Inv (s : MemStore) : Prop :=
  s.values.length = s.state.length ∧ s.keys.length = s.state.length ∧ s.maps.length = s.state.length

theorem C14_inv_new (dt : DType) (d : Option Val) : (MemStore.new dt d).Inv := by
  simp [MemStore.new, MemStore.Inv]

namespace MemStore

theorem abs_congr {s s' : MemStore} {j : Nat} (hd : s'.dtype = s.dtype) (hs : s'.state[j]? = s.state[j]?)
    (hv : s'.values[j]? = s.values[j]?) : s'.abs j = s.abs j := by
  unfold MemStore.abs
  rw [hs, hd, List.getD_eq_getElem?_getD, List.getD_eq_getElem?_getD, hv]

/-- `s'` comes from `s` by growing the arrays in step and writing at index `i` only: what an
operation on index `i` does to the rest of the store -/
structure Upd (i : Nat) (s s' : MemStore) : Prop where
  dtype : s'.dtype = s.dtype
  default : s'.default = s.default
  next : s.nextIndex ≤ s'.nextIndex
  len : s.state.length ≤ s'.state.length
  inv : s.Inv → s'.Inv
  frame : s.Inv → ∀ j, j ≠ i → j < s.state.length → s'.abs j = s.abs j

theorem Upd.refl {i : Nat} {s : MemStore} : Upd i s s :=
  ⟨rfl, rfl, Nat.le_refl _, Nat.le_refl _, id, fun _ _ _ _ => rfl⟩

theorem Upd.trans {i : Nat} {s s' s'' : MemStore} (h1 : Upd i s s') (h2 : Upd i s' s'') : Upd i s s'' :=
  ⟨h2.dtype.trans h1.dtype, h2.default.trans h1.default, Nat.le_trans h1.next h2.next,
    Nat.le_trans h1.len h2.len, h2.inv ∘ h1.inv, fun hi j hj hl =>
      (h2.frame (h1.inv hi) j hj (Nat.lt_of_lt_of_le hl h1.len)).trans (h1.frame hi j hj hl)⟩

theorem set_ok {s : MemStore} {k : Key} {v w : Val} (hi : k.idx < s.state.length)
    (hc : s.dtype.coerce v = .ok w) :
    s.set k v = ({ s with keys := s.keys.set k.idx (some k), state := s.state.set k.idx .set,
                          values := s.values.set k.idx w }, .unit) := by
  simp only [MemStore.set, hi, if_true, hc]

theorem set_upd (s : MemStore) (k : Key) (v : Val) : Upd k.idx s (s.set k v).1 := by
  simp only [MemStore.set]
  split
  · split
    · exact ⟨rfl, rfl, Nat.le_refl _, by simp, by simp [Inv], fun _ j hj _ =>
        abs_congr rfl (List.getElem?_set_ne hj.symm) (List.getElem?_set_ne hj.symm)⟩
    · exact .refl
  · exact .refl

theorem delKey_upd (s : MemStore) (k : Key) : Upd k.idx s (s.delKey k).1 := by
  simp only [MemStore.delKey]
  split
  · exact ⟨rfl, rfl, Nat.le_refl _, by simp, by simp [Inv], fun _ j hj _ =>
      abs_congr rfl (List.getElem?_set_ne hj.symm) (List.getElem?_set_ne hj.symm)⟩
  · exact .refl

theorem addMap_upd (s : MemStore) (k : Key) (g : Val) : Upd k.idx s (s.addMap k g).1 := by
  simp only [MemStore.addMap]
  split
  · exact .refl
  · exact ⟨rfl, rfl, Nat.le_succ _, Nat.le_refl _, fun h => ⟨h.1, h.2.1, List.length_set.trans h.2.2⟩, fun _ _ _ _ => rfl⟩

/-- `add_key` before the initial value is written -/
def fresh (s : MemStore) (k : Key) : MemStore :=
  let grow := (k.idx + 1) - s.state.length
  { s with
    values := s.values ++ List.replicate grow s.dtype.zero,
    state := (s.state ++ List.replicate grow Marker.cleared).set k.idx .notset,
    keys := (s.keys ++ List.replicate grow none).set k.idx (some k),
    maps := s.maps ++ List.replicate grow [] }

theorem addKey_eq (s : MemStore) (k : Key) :
    s.addKey k =
      if s.dtype = .mapper then
        ({ s.fresh k with state := (s.fresh k).state.set k.idx .set, maps := (s.fresh k).maps.set k.idx [] }, .unit)
      else match s.default with
        | some d => (s.fresh k).set k d
        | none => (s.fresh k, .unit) :=
  rfl

theorem fresh_lt (s : MemStore) (k : Key) : k.idx < (s.fresh k).state.length := by
  simp only [fresh, List.length_set, List.length_append, List.length_replicate]
  omega

theorem fresh_upd (s : MemStore) (k : Key) : Upd k.idx s (s.fresh k) :=
  ⟨rfl, rfl, Nat.le_refl _, by simp [fresh],
    fun h => by
      simp only [Inv, fresh, List.length_set, List.length_append, List.length_replicate, h.1, h.2.1, h.2.2,
        and_self],
    fun h j hj hl => abs_congr rfl
      (by rw [fresh, List.getElem?_set_ne hj.symm, List.getElem?_append_left hl])
      (List.getElem?_append_left (h.1 ▸ hl))⟩

theorem addKey_upd (s : MemStore) (k : Key) : Upd k.idx s (s.addKey k).1 := by
  rw [addKey_eq]
  split
  · exact (fresh_upd s k).trans ⟨rfl, rfl, Nat.le_refl _, by simp, by simp [Inv], fun _ j hj _ =>
      abs_congr rfl (List.getElem?_set_ne hj.symm) rfl⟩
  · split
    · exact (fresh_upd s k).trans (set_upd _ k _)
    · exact fresh_upd s k

/-- the index an operation works on (`iterate` works on none: any value will do) -/
def _root_.Rx.SOp.idx : SOp → Nat
  | .addKey k | .delKey k | .set k _ | .get k | .isSet k | .isCleared k | .addMap k _
  | .getMap k _ | .iterateMap k => k.idx
  | .iterate => 0

theorem apply_upd (s : MemStore) (op : SOp) : Upd op.idx s (s.apply op).1 := by
  cases op with
  | addKey k => exact addKey_upd s k
  | delKey k => exact delKey_upd s k
  | set k v => exact set_upd s k v
  | addMap k g => exact addMap_upd s k g
  | _ => exact .refl

theorem set_abs {s : MemStore} {k : Key} {v w : Val} (h : s.Inv) (hi : k.idx < s.state.length)
    (hc : s.dtype.coerce v = .ok w) : (s.set k v).1.abs k.idx = .set w := by
  rw [set_ok hi hc]
  simp [abs, List.getElem?_set_self hi, List.getElem?_set_self (h.1 ▸ hi)]

theorem fresh_abs (s : MemStore) (k : Key) : (s.fresh k).abs k.idx = .notset := by
  have := fresh_lt s k
  rw [fresh, List.length_set] at this
  simp [abs, fresh, List.getElem?_set_self this]

end MemStore

theorem C14_inv_step (s : MemStore) (op : SOp) (h : s.Inv) : (s.apply op).1.Inv :=
  (s.apply_upd op).inv h

/-- the invariant holds after every history -/
theorem C14_inv_run : ∀ (ops : List SOp) (s : MemStore), s.Inv →
    (ops.foldl (fun s op => (s.apply op).1) s).Inv
  | [], _, h => h
  | op :: ops, s, h => C14_inv_run ops _ (C14_inv_step s op h)

/-- **get** reads the abstract map: IndexError beyond the arrays, NotSet for an added, never
written slot, the stored value (with the declared type: `bool(value)` for bool stores) otherwise -/
theorem C14_get (s : MemStore) (k : Key) :
    s.get k = match s.abs k.idx with
      | .absent => .exc "IndexError"
      | .notset => .notset
      | .set v => .val (s.dtype.read v)
      | .cleared => .val (s.dtype.read (s.values.getD k.idx s.dtype.zero)) := by
  unfold MemStore.get MemStore.abs
  cases h : s.state[k.idx]? with
  | none => simp only [h]
  | some m => cases m <;> simp only [h]

/-- **fresh after add_key**: a slot that is added reads NotSet when the store has no default
(and is not a mapper), whatever it held before — also after `del_key` — and with a default it
holds the coerced default -/
theorem C14_add_fresh (s : MemStore) (k : Key) (h : s.Inv) (hm : s.dtype ≠ .mapper) :
    (s.default = none → (s.addKey k).1.abs k.idx = .notset) ∧
    (∀ d w, s.default = some d → s.dtype.coerce d = .ok w → (s.addKey k).1.abs k.idx = .set w) := by
  rw [MemStore.addKey_eq, if_neg hm]
  refine ⟨fun hd => ?_, fun d w hd hc => ?_⟩ <;> rw [hd]
  · exact s.fresh_abs k
  · exact MemStore.set_abs ((s.fresh_upd k).inv h) (s.fresh_lt k) hc

/-- **read your write**: after a successful `set`, `get` returns the written value with the declared
type (operations on other indices do not change that: `C14_frame`) -/
theorem C14_read_your_write (s : MemStore) (k : Key) (v w : Val) (h : s.Inv)
    (hi : k.idx < s.state.length) (hc : s.dtype.coerce v = .ok w) :
    (s.set k v).2 = .unit ∧ (s.set k v).1.get k = .val (s.dtype.read w) := by
  refine ⟨by rw [MemStore.set_ok hi hc], ?_⟩
  rw [C14_get, MemStore.set_abs h hi hc, (s.set_upd k v).dtype]

set_option linter.unusedVariables false in
/-- **fresh again after del_key; add_key** (`hi` is not used: `add_key` grows the arrays to the index) -/
theorem C14_del_add (s : MemStore) (k : Key) (h : s.Inv) (hm : s.dtype ≠ .mapper) (hd : s.default = none)
    (hi : k.idx < s.state.length) :
    ((s.delKey k).1.addKey k).1.get k = .notset := by
  have hu := s.delKey_upd k
  rw [C14_get, (C14_add_fresh (s.delKey k).1 k (hu.inv h) (hu.dtype ▸ hm)).1 (hu.default.trans hd)]

/-- **frame**: no operation on index `i` changes the abstract slot of any other index `j` of the
allocated range — whatever the order and sparsity of indices (growth only adds cleared slots) -/
theorem C14_frame (s : MemStore) (op : SOp) (i j : Nat) (h : s.Inv)
    (hop : match op with
      | .addKey k | .delKey k | .set k _ | .get k | .isSet k | .isCleared k | .addMap k _
      | .getMap k _ | .iterateMap k => k.idx = i
      | .iterate => True)
    (hij : j ≠ i) (hj : j < s.state.length) :
    (s.apply op).1.abs j = s.abs j := by
  cases op with
  | iterate => rfl
  | _ => cases hop; exact (s.apply_upd _).frame h j hij hj

/-- `add_map` returns the store-wide counter and advances it (no operation lowers it: `Upd.next`) -/
theorem C14_add_map_index (s : MemStore) (k : Key) (g : Val) (m : List (Val × Nat)) (h : s.maps[k.idx]? = some m) :
    (s.addMap k g).2 = .idx s.nextIndex ∧ (s.addMap k g).1.nextIndex = s.nextIndex + 1 := by
  simp [MemStore.addMap, h]

/-- indices handed out by `add_map` over a history -/
def handedOut : MemStore → List SOp → List Nat
  | _, [] => []
  | s, op :: ops =>
    (match (s.apply op).2, op with
     | .idx i, .addMap _ _ => [i]
     | _, _ => []) ++ handedOut (s.apply op).1 ops

theorem handedOut_cons (s : MemStore) (op : SOp) (ops : List SOp) :
    ∃ hd, handedOut s (op :: ops) = hd ++ handedOut (s.apply op).1 ops ∧
      (hd = [] ∨ (hd = [s.nextIndex] ∧ s.nextIndex < (s.apply op).1.nextIndex)) := by
  refine ⟨_, rfl, ?_⟩
  split
  · next i k g hres =>
    cases hm : s.maps[k.idx]? with
    | none => simp [MemStore.apply, MemStore.addMap, hm] at hres
    | some m =>
      obtain ⟨e1, e2⟩ := C14_add_map_index s k g m hm
      cases e1.symm.trans hres
      exact .inr ⟨rfl, by rw [MemStore.apply, e2]; exact Nat.lt_succ_self _⟩
  · exact .inl rfl

/-- **group indices are never reused**: over any history, every index handed out by `add_map` is
at least the counter at the start and the indices are pairwise distinct (strictly increasing) -/
theorem C14_indices_fresh : ∀ (ops : List SOp) (s : MemStore),
    (∀ i ∈ handedOut s ops, s.nextIndex ≤ i) ∧ (handedOut s ops).Pairwise (· < ·)
  | [], _ => ⟨nofun, .nil⟩
  | op :: ops, s => by
    obtain ⟨ih1, ih2⟩ := C14_indices_fresh ops (s.apply op).1
    have hmono := (s.apply_upd op).next
    obtain ⟨hd, h, hhd⟩ := handedOut_cons s op ops
    rw [h]
    rcases hhd with rfl | ⟨rfl, hlt⟩
    · exact ⟨fun i hi => Nat.le_trans hmono (ih1 i hi), ih2⟩
    · refine ⟨fun i hi => ?_, List.pairwise_cons.mpr ⟨fun i hi => Nat.lt_of_lt_of_le hlt (ih1 i hi), ih2⟩⟩
      rcases List.mem_cons.mp hi with rfl | hi
      · exact Nat.le_refl _
      · exact Nat.le_trans hmono (ih1 i hi)

/-- `get_map` after `add_map` returns the index just handed out; `iterate_map` enumerates exactly
the mapped keys, a new key last -/
theorem C14_map_lookup (s : MemStore) (k : Key) (g : Val) (m : List (Val × Nat)) (h : s.maps[k.idx]? = some m)
    (hnew : ∀ p ∈ m, p.1 ≠ g) :
    (s.addMap k g).1.getMap k g = .idx s.nextIndex ∧
    (s.addMap k g).1.iterateMap k = .keysOf (m.map (·.1) ++ [g]) := by
  obtain ⟨hlt, hm⟩ := List.getElem?_eq_some_iff.mp h
  have hany : m.any (fun p => decide (p.1 = g)) = false := by
    rw [List.any_eq_false]; intro p hp; simpa using hnew p hp
  have hfind : m.find? (fun p => decide (p.1 = g)) = none := by
    rw [List.find?_eq_none]; intro p hp; simpa using hnew p hp
  simp [MemStore.addMap, hm, hany, MemStore.getMap, MemStore.iterateMap, hlt, List.find?_append, hfind]

/-- **a rejected write is not a write**: when the declared type rejects the value (TypeError / OverflowError of the typed
array) the operation raises and the store is exactly what it was — the written index and every other index read as before -/
theorem C14_rejected_write (s : MemStore) (k : Key) (v : Val) (e : Err) (h : s.dtype.coerce v = .error e) :
    (s.set k v).1 = s ∧ ((s.set k v).2 = .exc e ∨ (s.set k v).2 = .exc "IndexError") := by
  by_cases hi : k.idx < s.state.length <;> simp [MemStore.set, hi, h]

/-- a write the declared type rejects raises and leaves the slot NotSet -/
example : ((MemStore.new .int none).run [.addKey [1, 0], .set [1, 0] (Val.flt 0.5), .get [1, 0], .isSet [1, 0]]) =
    [.unit, .exc "TypeError", .notset, .bool false] := rfl
/-- sparse indices out of order, read-your-write, fresh again after `del_key; add_key` -/
example : ((MemStore.new .int none).run [.addKey [5, 0], .get [5, 0], .set [5, 0] (.int 7), .get [5, 0], .addKey [2, 0],
    .get [2, 0], .delKey [5, 0], .addKey [5, 0], .get [5, 0]]) =
    [.unit, .notset, .unit, .val (.int 7), .unit, .notset, .unit, .unit, .notset] := rfl

end Rx
