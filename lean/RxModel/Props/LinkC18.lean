import RxGen.Text
import RxModel.Csv
import RxModel.Lemmas.PyTextLemmas
import RxModel.Lemmas.CsvMerge
/-!
# C18 link theorems: `is_closing_quote` and `merge_escape_parts` of rxsci/container/csv.py — the functions that re-join the pieces
of quoted fields containing the separator — generated from the source (`StrFnTranslator`: strings as `List Char`, indexing with
IndexError, short-circuit `and` / `or`, a variable that is `None` or a list, the `while` loop as a recursion whose fuel is the
loop counter + 1) ARE the model's `closingQuote` and `mergeParts` (Csv.lean), on which `C18_row` rests.  Around them, the two
directions of a row: the row part of `csv.dump`'s `on_next` is `dumpRow`, and `parse_line` of `create_line_parser` with the typed
column parsers of a schema is `parseLine`.
-/
namespace Rx
open PyStr

/-- the `while` loop of `is_closing_quote` counts the escape characters that end the text before the final quote -/
theorem closing_loop (esc : Char) : ∀ (r sfx : List Char) (count : Int),
    ∃ i, Gen.is_closing_quote_loop1 (r.reverse ++ sfx) [esc] r.length count ((r.length : Int) - 1)
      = .ok (count + ((r.takeWhile (· == esc)).length : Int), i) := by
  intro r
  induction r with
  | nil => exact fun sfx count => ⟨_, congrArg (fun c => Except.ok (c, _)) (Int.add_zero count).symm⟩
  | cons a r ih =>
    intro sfx count
    have hg : PyStr.getChar ((a :: r).reverse ++ sfx) (r.length : Int) = .ok [a] := by
      rw [List.reverse_cons, ← List.length_reverse]
      exact getChar_mid r.reverse sfx a
    rw [List.length_cons, Int.natCast_add, Int.natCast_one, Int.add_sub_cancel]
    simp only [Gen.is_closing_quote_loop1, ge_iff_le, Int.natCast_nonneg, decide_true, if_true, hg, ok_bind, List.takeWhile_cons,
      List.cons.injEq, and_true, pure, Except.pure, beq_iff_eq]
    by_cases hae : a = esc
    · subst hae
      obtain ⟨i, hi⟩ := ih ([a] ++ sfx) (count + 1)
      refine ⟨i, ?_⟩
      rw [List.reverse_cons, List.append_assoc]
      simp only [decide_true, if_true, hi, List.length_cons, Int.natCast_add, Int.natCast_one, Int.add_assoc, Int.add_comm 1]
    · exact ⟨r.length, by simp only [hae, decide_false, Bool.false_eq_true, if_false, List.length_nil, Int.natCast_zero, Int.add_zero]⟩

/-- `count % 2 == 0` on a count that is a natural number -/
theorem fmod_two (n : Nat) : decide (Int.fmod (n : Int) 2 = 0) = (n % 2 == 0) := by
  rw [Int.fmod_eq_emod_of_nonneg _ (by decide), Bool.beq_eq_decide_eq]
  show decide ((n : Int) % ((2 : Nat) : Int) = ((0 : Nat) : Int)) = _
  rw [← Int.natCast_emod]
  exact decide_eq_decide.mpr Int.natCast_inj

/-- **`is_closing_quote`**, generated from rxsci/container/csv.py, is the model's `closingQuote` -/
theorem Link_closing_quote (esc : Char) (t : List Char) :
    Gen.is_closing_quote t [esc] = .ok (closingQuote esc t) := by
  rcases List.eq_nil_or_concat t with rfl | ⟨init, c, rfl⟩
  · rfl
  · rw [List.concat_eq_append]
    have hidx : ((init.length + 1 : Nat) : Int) - 2 = (init.length : Int) - 1 := by
      rw [Int.natCast_add, Int.natCast_one, Int.add_sub_assoc]; rfl
    simp only [Gen.is_closing_quote, getChar_neg_one, ok_bind, List.length_append, List.length_singleton, Int.ofNat_eq_natCast, hidx,
      Int.sub_add_cancel, Int.toNat_natCast, Int.natCast_eq_zero, Nat.succ_ne_zero, decide_false, Bool.false_eq_true, if_false,
      pure, Except.pure, ne_eq, List.cons.injEq, and_true, decide_not]
    by_cases hc : c = '"'
    · subst hc
      obtain ⟨i, hi⟩ := closing_loop esc init.reverse ['"'] 0
      rw [List.reverse_reverse, List.length_reverse] at hi
      simp only [decide_true, Bool.not_true, Bool.false_eq_true, if_false, hi, ok_bind, Int.zero_add, fmod_two, closingQuote_snoc, trailEsc]
    · simp only [hc, decide_false, Bool.not_false, if_true,
        closingQuote_not_quote esc (init ++ [c]) (by rw [List.getLast?_concat]; exact fun h => hc (Option.some.inj h))]

/-- `len(t) > 0 and t[0] == '"'` -/
theorem head_quote (t : List Char) :
    (if decide (Int.ofNat t.length > 0) = true then (do
        let t3 ← PyStr.getChar t 0
        pure (decide (t3 = ['"'])))
      else pure false : Except Err Bool) = .ok (decide (t.head? = some '"')) := by
  cases t with
  | nil => rfl
  | cons a r =>
    have h : decide (Int.ofNat (a :: r).length > 0) = true := decide_eq_true (Int.natCast_succ_pos r.length)
    rw [if_pos h, getChar_zero]
    exact congrArg Except.ok (decide_eq_decide.mpr (by simp only [List.cons.injEq, and_true, List.head?_cons, Option.some.injEq]))

/-- `len(t) > 0 and is_closing_quote(t)`: the empty text has no closing quote -/
theorem len_and_closingQuote (esc : Char) (t : List Char) :
    (if decide (Int.ofNat t.length > 0) = true then Except.ok (closingQuote esc t) else pure false : Except Err Bool)
      = .ok (closingQuote esc t) := by
  cases t with
  | nil => rfl
  | cons a r => exact if_pos (decide_eq_true (Int.natCast_succ_pos r.length))

/-- one pass of the loop of `merge_escape_parts` on the model side: the pieces it completes and the new aggregate -/
def mergeOne (sep : List Char) (esc : Char) (agg : Option (List (List Char))) (t : List Char) :
    List (List Char) × Option (List (List Char)) :=
  if t = ['"'] then
    match agg with
    | none => ([], some [['"']])
    | some a => ([joinWith sep (a ++ [['"']])], none)
  else if t.head? = some '"' ∧ closingQuote esc t ∧ agg = none then ([t], none)
  else if closingQuote esc t ∧ agg ≠ none then
    match agg with
    | some a => ([joinWith sep (a ++ [t])], none)
    | none => ([t], none)
  else if t.head? = some '"' ∧ agg = none then ([], some [t])
  else match agg with
    | some a => ([], some (a ++ [t]))
    | none => ([t], none)

theorem mergeParts_cons (sep : List Char) (esc : Char) (agg : Option (List (List Char))) (t : List Char) (ts : List (List Char)) :
    mergeParts sep esc agg (t :: ts) = (mergeOne sep esc agg t).1 ++ mergeParts sep esc (mergeOne sep esc agg t).2 ts := by
  rw [mergeParts.eq_def]
  cases agg <;>
    simp only [mergeOne, and_true, ne_eq, not_true_eq_false, and_false, if_false, reduceCtorEq, not_false_eq_true,
      apply_ite (fun p : List (List Char) × Option (List (List Char)) => p.1 ++ mergeParts sep esc p.2 ts), List.nil_append,
      List.cons_append]

/-- a loop each pass of which is one `mergeOne` step computes `mergeParts` -/
theorem merge_main (sep : List Char) (esc : Char)
    (body : List Char → List (List Char) × Option (List (List Char)) → Except Err (ForInStep (List (List Char) × Option (List (List Char)))))
    (hbody : ∀ t m agg, body t (m, agg) = .ok (ForInStep.yield (m ++ (mergeOne sep esc agg t).1, (mergeOne sep esc agg t).2)))
    (parts : List (List Char)) :
    (do let s ← forIn parts (([] : List (List Char)), (none : Option (List (List Char)))) body; pure s.fst : Except Err (List (List Char)))
      = .ok (mergeParts sep esc none parts) := by
  have loop : ∀ (ps : List (List Char)) (m : List (List Char)) (agg : Option (List (List Char))),
      ∃ agg', forIn ps (m, agg) body = (Except.ok (m ++ mergeParts sep esc agg ps, agg') : Except Err _) := by
    intro ps
    induction ps with
    | nil => exact fun m agg => ⟨agg, congrArg (fun l => Except.ok (l, agg)) (List.append_nil m).symm⟩
    | cons t ts ih =>
      intro m agg
      obtain ⟨agg', h⟩ := ih (m ++ (mergeOne sep esc agg t).1) (mergeOne sep esc agg t).2
      exact ⟨agg', by simp only [List.forIn_cons, hbody, ok_bind, h, mergeParts_cons, List.append_assoc]⟩
  obtain ⟨agg', h⟩ := loop parts [] none
  rw [h]
  rfl

/-- **`merge_escape_parts`**, generated from rxsci/container/csv.py, is the model's `mergeParts` -/
theorem Link_merge_parts (sep : List Char) (esc : Char) (parts : List (List Char)) :
    Gen.merge_escape_parts parts sep [esc] = .ok (mergeParts sep esc none parts) := by
  unfold Gen.merge_escape_parts
  simp only [Link_closing_quote, head_quote, len_and_closingQuote]
  apply merge_main sep esc
  intro t m agg
  cases agg <;>
    simp only [pure, Except.pure, and_block, Bool.decide_eq_true, ok_bind, PyStr.unwrap, PyStr.join, ← joinWith_eq_intercalate, mergeOne,
      Option.isNone_none, Option.isSome_none, Option.isNone_some, Option.isSome_some, Bool.and_true, Bool.and_false, Bool.and_eq_true, decide_eq_true_eq, Bool.false_eq_true,
      if_false, if_true, and_true, ne_eq, not_true_eq_false, and_false, reduceCtorEq, not_false_eq_true,
      apply_ite (fun p : List (List Char) × Option (List (List Char)) => (Except.ok (ForInStep.yield (m ++ p.1, p.2)) : Except Err _)),
      List.append_nil]

/-- every field is of one of the five types `csv.dump` lists: the `str(f)` fallback for other types is never taken -/
theorem pyTypeIn_all (f : CsvField) : f.pyTypeIn ["int", "float", "bool", "str", "NoneType"] = true := by
  cases f <;> simp only [CsvField.pyTypeIn, CsvField.pyType] <;> decide

/-- the text `csv.dump` produces for one field (generated from the loop body of rxsci/container/csv.py `dump`) is the model's
`dumpField` -/
theorem Link_csv_dump_field (esc : Char) (f : CsvField) : Gen.csv_dump_field [esc] f = dumpField esc f := by
  simp only [Gen.csv_dump_field, pyTypeIn_all, Bool.not_true, Bool.false_eq_true, if_false]
  cases f
  case str s => simp only [pyReplace_one]; rfl
  all_goals rfl

/-- **the row part of `csv.dump`'s `on_next`**, generated from rxsci/container/csv.py, is the model's `dumpRow` — the function
`C18_row` is about — for every separator, every escape character and every row of ints, floats, bools, strings and `None` -/
theorem Link_csv_dump_row (sep : Str) (esc : Char) (row : List CsvField) :
    Gen.csv_dump_row sep [esc] ['\n'] row = dumpRow sep esc row := by
  simp only [Gen.csv_dump_row, dumpRow, PyStr.join, ← joinWith_eq_intercalate, funext (Link_csv_dump_field esc)]

theorem slice_inner (c : Char) (r : List Char) : PyStr.slice (c :: r) 1 (-1) = r.dropLast :=
  (slice_neg_one (c :: r) 1).trans (by cases r <;> rfl)

theorem Link_csv_parse_field (esc : Char) (i : List Char) : Gen.csv_parse_field [esc] i = .ok (unquote esc i) := by
  cases i with
  | nil => rfl
  | cons c r =>
    have hpos : decide (Int.ofNat (r.length + 1) > 0) = true := decide_eq_true (Int.natCast_succ_pos r.length)
    have hlast : PyStr.getChar (c :: r) (-1) = .ok [(c :: r).getLast (List.cons_ne_nil c r)] := by
      rw [getChar_eq, getItem_neg_one_eq_getLast]; rfl
    simp only [Gen.csv_parse_field, unquote, getChar_zero, hlast, ok_bind, List.length_cons, hpos, if_true, Nat.zero_lt_succ, true_and,
      List.head?_cons, List.getLast?_eq_some_getLast (List.cons_ne_nil c r), Option.some.injEq, List.cons.injEq, and_true, slice_inner,
      List.singleton_append, pyReplace_two, List.drop_succ_cons, List.drop_zero, pure, Except.pure, and_block, Bool.and_eq_true,
      decide_eq_true_eq, apply_ite Except.ok]

/-- the typed parsers of a schema, as `columns_parser[index]` -/
def colParser (types : List CsvType) (index : Nat) (s : Str) : Except Err CsvField :=
  match types[index]? with
  | some ty => parseField ty s
  | none => .error "IndexError"

theorem mapM_gen_fields (esc : Char) (all : List CsvType) : ∀ (parts : List Str) (tys : List CsvType) (k : Nat),
    parts.length = tys.length → (∀ j, j < tys.length → all[k + j]? = tys[j]?) →
    (parts.zipIdx k).mapM (fun (p : List Char × Nat) => do
        let i := p.1
        let index := p.2
        let i ← Gen.csv_parse_field [esc] i
        if ([] : List (List Char)).contains i then pure none
        else do
          let t ← colParser all index i
          pure (some t))
      = ((parts.zip tys).mapM (fun p => parseField p.2 (unquote esc p.1))).map (List.map some) := by
  intro parts
  induction parts with
  | nil => intro tys k h _; cases tys <;> rfl
  | cons p ps ih =>
    intro tys k h hall
    cases tys with
    | nil => exact absurd h (Nat.succ_ne_zero _)
    | cons ty tys =>
      have h0 : all[k]? = some ty := hall 0 (Nat.zero_lt_succ _)
      have ih' := ih tys (k + 1) (Nat.succ.inj h) fun j hj => by
        rw [Nat.add_assoc, Nat.add_comm 1 j]; exact hall (j + 1) (Nat.succ_lt_succ hj)
      rw [List.zipIdx_cons, List.mapM_cons, List.zip_cons_cons, List.mapM_cons, ih']
      simp only [Link_csv_parse_field, ok_bind, List.contains_nil, Bool.false_eq_true, if_false, colParser, h0]
      cases parseField ty (unquote esc p) with
      | error e => rfl
      | ok v => cases (ps.zip tys).mapM (fun p => parseField p.2 (unquote esc p.1)) <;> rfl

/-- the loop of `parse_line` over parts that are as many as the schema's columns -/
theorem parse_fields (esc : Char) (types : List CsvType) (parts : List Str) (h : parts.length = types.length) :
    (do let fs ← parts.zipIdx.mapM (fun (p : List Char × Nat) => do
          let i ← Gen.csv_parse_field [esc] p.1
          if ([] : List (List Char)).contains i then pure none
          else do
            let t ← colParser types p.2 i
            pure (some t))
        pure (some fs) : Except Err _)
      = ((parts.zip types).mapM (fun p => parseField p.2 (unquote esc p.1))).map (fun l => some (l.map some)) := by
  rw [mapM_gen_fields esc types parts types 0 h fun j _ => by rw [Nat.zero_add]]
  cases (parts.zip types).mapM fun p => parseField p.2 (unquote esc p.1) <;> rfl

/-- **`parse_line`** of `create_line_parser` (generated from rxsci/container/csv.py), with the typed column parsers of a schema, no
`none_values` and `ignore_error=False`, is the model's `parseLine`: split, `merge_escape_parts` when the column count is off, the
column-count error, un-quoting and un-escaping of every field, the typed parser of its column -/
theorem Link_csv_parse_line (sep : Str) (esc : Char) (types : List CsvType) (line : Str) :
    Gen.csv_parse_line sep [esc] [] false (colParser types) types.length line
      = (parseLine sep esc types line).map (fun l => some (l.map some)) := by
  unfold Gen.csv_parse_line parseLine
  rw [tryCatch_rethrowJ]
  simp only [Link_merge_parts, ok_bind, bne_iff_ne, ne_eq, ite_not, pure, Except.pure]
  by_cases h1 : (pySplit sep line).length = types.length
  · simp only [h1, if_true, ok_bind]
    exact parse_fields esc types _ h1
  · by_cases h2 : (mergeParts sep esc none (pySplit sep line)).length = types.length
    · simp only [h1, h2, if_true, if_false, ok_bind]
      exact parse_fields esc types _ h2
    · simp only [h1, h2, if_false]
      rfl
end Rx
