import RxModel.Lemmas.Obs
/-!
# C07 — time_split sessions respect active/inactive timeouts and closing items

About `timeSplitLS c`, the splitter of one parent key lifetime written as `time_split_mux.on_next`;
its windows are the sessions.  The state is the reference timestamp of the open window (`start` in
LSplit.lean, `ref` in the statements here) and the previous timestamp `last`; timestamps and timeouts
are integers.  All four present/absent combinations of the timeouts are one `∀` over `Option`; no
monotonicity of timestamps is assumed.
-/
namespace Rx

/-- the rule of the statement, for an item with timestamp `t` when the window's reference timestamp
is `ref` and the previous item's timestamp is `last` -/
def expired (active inactive : Option Int) (ref last t : Int) : Prop :=
  (∃ a, active = some a ∧ t ≥ ref + a) ∨ (∃ b, inactive = some b ∧ t ≥ last + b)

theorem tsExpired_iff {α} (c : TsCfg α) (ref last t : Int) :
    tsExpired c ref last t = true ↔ expired c.active c.inactive ref last t := by
  unfold tsExpired expired
  cases c.active <;> cases c.inactive <;> simp

/-- **the rule, item by item** (with the state made explicit): from reference timestamp `ref`,
previous timestamp `last` and an open window holding `cur`, an item `x` with timestamp `t`
* opens a new window — `cur` is completed, the new window starts with `x` — iff
  `t ≥ ref + active` or `t ≥ last + inactive` (inclusive, each only when configured);
* otherwise, when the closing mapper accepts it, completes the current window, `x` being its last
  item (`include_closing_item`) or the first of the next one;
* otherwise joins the current window;
and in every case the previous timestamp becomes `t`, and the reference timestamp becomes `t` exactly
when a window was completed. -/
theorem C07_step {α} (c : TsCfg α) (ref last : Int) (x : α) (cur : List α) (cl : List (List α))
    (opn : Nat → Option (List α)) (hop : opn 0 = some cur) :
    let r := (timeSplitLS c).next (some (ref, last)) x
    let ob := obsRun ⟨opn, cl⟩ r.2
    let t := c.time x
    let closes := c.closes x
    (expired c.active c.inactive ref last t →
        ob.closed = cl ++ [cur] ∧ ob.opn 0 = some [x] ∧ r.1 = some (t, t)) ∧
    (¬ expired c.active c.inactive ref last t → closes = true → c.incl = true →
        ob.closed = cl ++ [cur ++ [x]] ∧ ob.opn 0 = some [] ∧ r.1 = some (t, t)) ∧
    (¬ expired c.active c.inactive ref last t → closes = true → c.incl = false →
        ob.closed = cl ++ [cur] ∧ ob.opn 0 = some [x] ∧ r.1 = some (t, t)) ∧
    (¬ expired c.active c.inactive ref last t → closes = false →
        ob.closed = cl ∧ ob.opn 0 = some (cur ++ [x]) ∧ r.1 = some (ref, t)) := by
  intro r ob t closes
  have hne : ¬ expired c.active c.inactive ref last t → tsExpired c ref last (c.time x) = false :=
    fun he => Bool.eq_false_iff.mpr (mt (tsExpired_iff c ref last _).mp he)
  refine ⟨fun he => ?_, fun he hc hi => ?_, fun he hc hi => ?_, fun he hc => ?_⟩
  · simp [r, ob, t, timeSplitLS, (tsExpired_iff c ref last _).mpr he, obsRun, obsStep, upd, hop]
  · simp [r, ob, t, timeSplitLS, hne he, show c.closes x = true from hc, hi, obsRun, obsStep, upd, hop]
  · simp [r, ob, t, timeSplitLS, hne he, show c.closes x = true from hc, hi, obsRun, obsStep, upd, hop]
  · simp [r, ob, t, timeSplitLS, hne he, show c.closes x = false from hc, obsRun, obsStep, hop]

/-- **partition**: every item of the key is delivered to exactly one window, in order: the windows
completed while items arrive followed by the window completed at the key's completion concatenate
to the input -/
theorem C07_partition {α} (c : TsCfg α) (xs : List α) :
    (((timeSplitLS c).windows xs).1 ++ ((timeSplitLS c).windows xs).2).flatten = xs :=
  (timeSplitLS_seq c).partition xs

theorem ts_next_last {α} (c : TsCfg α) (st : Option (Int × Int)) (x : α) :
    ((timeSplitLS c).next st x).1.map (·.2) = some (c.time x) := by
  cases st <;> simp only [timeSplitLS, apply_ite Prod.fst, apply_ite (Option.map _), Option.map_some, ite_self]

/-- the "previous timestamp" used by the rule really is the timestamp of the previous item -/
theorem C07_last_is_previous {α} (c : TsCfg α) (xs : List α) (y : α) (s l : Int)
    (h : (runObsRaw (timeSplitLS c).next (none, Obs.empty) (xs ++ [y])).1 = some (s, l)) :
    l = c.time y := by
  have hi := runObsRaw_inv (timeSplitLS c).next (fun pre st _ => st.map (·.2) = pre.getLast?.map c.time)
    (fun pre st _ x _ => (ts_next_last c st x).trans (by rw [List.getLast?_concat]; rfl))
    (xs ++ [y]) [] none Obs.empty rfl
  rw [h, List.nil_append, List.getLast?_concat] at hi
  exact Option.some.inj hi

/-- the marble of the documentation, `time_split(5, 3)` -/
example : (timeSplitLS ⟨fun (n : Int) => n, some 5, some 3, none, true⟩).windows [1, 2, 3, 4, 5, 6, 10, 12] =
    ([[1, 2, 3, 4, 5], [6]], [[10, 12]]) := by decide

end Rx
