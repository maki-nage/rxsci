import RxGen.Codec
import RxModel.Lemmas.PyCodecLemmas
import RxModel.Lemmas.Compress
/-!
# C16 link theorems: the closures of `compress()` / `decompress()` in rxsci/compression/z.py and zstd.py, generated from the source
over an abstract streaming codec `K` (monad `CM`, RxModel/PyCodec.lean), driven as a subscription drives them (`driveC`: `on_next`
per chunk, `on_completed`, nothing after an `on_error`), send the observer exactly `compressRun K` / `decompressRun K skipEmpty` —
the functions `C16_roundtrip`, `C16_truncated`, `C16_compress_shape` are about (`skipEmpty` = the empty-chunk guard of
`zstd.decompress`).  The libraries stay behind the contract `CodecContract`.
-/
namespace Rx

/-- `R` is a run that a step function generates: one item per chunk, an exception ends it with `on_error` (`hR`; both
`compressRun K` and `decompressRun K skipEmpty` are of this kind).  Closures that do per chunk what the step does (`hnext`) and at
completion send what `R` ends with (`hfin`) send the observer `R` -/
theorem driveC_run {σ} (next : Bytes → CM σ Unit) (fin : CM σ Unit) (step : σ → Bytes → Except String (σ × Bytes))
    (R : σ → List Bytes → List WEv)
    (hR : ∀ s x xs, R s (x :: xs) = stepRun (step s x) (R · xs))
    (hnext : ∀ s out x, (CM.run (next x) ⟨s, out⟩).2 = match step s x with
      | .ok (s', d) => ⟨s', out ++ [.next d]⟩
      | .error e => ⟨s, out ++ [.error e]⟩)
    (hfin : ∀ s out, (CM.run fin ⟨s, out⟩).2.out = out ++ R s [])
    (chunks : List Bytes) (s : σ) (out : List WEv) (hout : failed out = false) :
    driveC next fin chunks ⟨s, out⟩ = out ++ R s chunks := by
  induction chunks generalizing s out with
  | nil => rw [driveC, hfin]
  | cons x xs ih =>
    rw [driveC, hnext, hR]
    rcases step s x with e | ⟨s', d⟩
    · exact if_pos (failed_append_error out e)
    · have h := (failed_append_next out d).trans hout
      exact (if_neg (ne_true_of_eq_false h)).trans ((ih s' _ h).trans (List.append_assoc ..))

/-- the closures of `z.compress()`, driven over the chunks, send the observer `compressRun` -/
theorem LinkZ_compress (K : StreamCodec) (chunks : List Bytes) (c : K.C) (out : List WEv) (hout : failed out = false) :
    driveC (Gen.z_compress_on_next K) (Gen.z_compress_on_completed K) chunks ⟨c, out⟩ = out ++ compressRun K c chunks := by
  refine driveC_run _ _ K.compress (compressRun K) (compressRun_cons K) (fun c out i => ?_) (fun c out => ?_) chunks c out hout
  · simp only [Gen.z_compress_on_next, run_simps]
    rcases K.compress c i with _ | ⟨_, _⟩ <;> rfl
  · simp only [Gen.z_compress_on_completed, run_simps, compressRun]
    cases K.cflush c
    · rfl
    · simp only [run_simps]

/-- the closures of `zstd.compress()` are word for word those of `z.compress()` -/
theorem LinkZ_compress_zstd (K : StreamCodec) (chunks : List Bytes) (c : K.C) (out : List WEv) (hout : failed out = false) :
    driveC (Gen.zstd_compress_on_next K) (Gen.zstd_compress_on_completed K) chunks ⟨c, out⟩ = out ++ compressRun K c chunks :=
  LinkZ_compress K chunks c out hout

/-- `on_completed` of `z.decompress()`, and word for word of `zstd.decompress()`: what either run ends with -/
theorem decompress_completed_run (K : StreamCodec) (skipEmpty : Bool) (d : K.D) (out : List WEv) :
    (CM.run (Gen.z_decompress_on_completed K) ⟨d, out⟩).2.out = out ++ decompressRun K skipEmpty d [] := by
  simp only [Gen.z_decompress_on_completed, run_simps, decompressRun]
  cases K.eof d
  · rfl
  · cases K.dflush d
    · rfl
    · simp only [run_simps]

/-- the closures of `z.decompress()`, driven over the chunks, send the observer `decompressRun K false` -/
theorem LinkZ_decompress (K : StreamCodec) (chunks : List Bytes) (d : K.D) (out : List WEv) (hout : failed out = false) :
    driveC (Gen.z_decompress_on_next K) (Gen.z_decompress_on_completed K) chunks ⟨d, out⟩ = out ++ decompressRun K false d chunks := by
  refine driveC_run _ _ K.decompress (decompressRun K false) (decompressRun_cons K false) (fun d out i => ?_)
    (decompress_completed_run K false) chunks d out hout
  simp only [Gen.z_decompress_on_next, run_simps]
  rcases K.decompress d i with _ | ⟨_, _⟩ <;> rfl

/-- the closures of `zstd.decompress()` (an empty chunk is answered without touching the decompressor): `decompressRun K true` -/
theorem LinkZ_decompress_zstd (K : StreamCodec) (chunks : List Bytes) (d : K.D) (out : List WEv) (hout : failed out = false) :
    driveC (Gen.zstd_decompress_on_next K) (Gen.zstd_decompress_on_completed K) chunks ⟨d, out⟩ = out ++ decompressRun K true d chunks := by
  refine driveC_run _ _ (fun d x => if x.isEmpty then .ok (d, []) else K.decompress d x) (decompressRun K true)
    (decompressRun_cons K true) (fun d out i => ?_) (decompress_completed_run K true) chunks d out hout
  simp only [Gen.zstd_decompress_on_next, run_simps, decide_eq_true_eq, List.length_eq_zero_iff, List.isEmpty_iff]
  split
  · rfl
  · rcases K.decompress d i with _ | ⟨_, _⟩ <;> rfl

end Rx
