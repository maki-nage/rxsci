import RxModel.Lemmas.Nested
import RxModel.Lemmas.SimSeq
import RxModel.Lemmas.SimRoll
import RxModel.Lemmas.SimGroupBy
import RxModel.Bounds
/-!
# C03 — the mux event protocol is well-formed at every operator boundary

`WF t`: the monitor `wfStep` accepts `t` — no item, error or completion for a key that is not live,
no second creation of a live key, no two live keys sharing a slot index.  `WFClosed t`: and every key
created has been completed.

Every boundary carries the output of a prefix of the pipeline, and that output is the keyed reference's, which
preserves both (`C03_ref_preserves`): for flat pipelines by `impl_eq_ref` (`Pipe.implements`), on every trace; for
nested ones by `Pipe.implN`, on clean traces, with `split_inner_wf` at the head of an inner pipeline.  The proofs
carry `Follows t u`, which composes along the pipeline; the statements are its two halves.
-/
namespace Rx

/-- every per-key operator (the keyed semantics) maps well-formed to well-formed, closed to closed -/
theorem C03_ref_preserves {α β} (L : LocalOp α β) (t : List (Ev α)) :
    (WF t → WF ((refLift L).run t).flatten) ∧ (WFClosed t → WFClosed ((refLift L).run t).flatten) :=
  ⟨ref_wf L t, ref_wf_closed L t⟩

/-- what the proofs show of a trace `u` produced from a well-formed `t`: it is well-formed, and closed when `t` is -/
def Follows {α β} (t : List (Ev α)) (u : List (Ev β)) : Prop := WF u ∧ (WFClosed t → WFClosed u)

theorem Follows.trans {α β γ} {t : List (Ev α)} {u : List (Ev β)} {v : List (Ev γ)}
    (h1 : Follows t u) (h2 : Follows u v) : Follows t v := ⟨h2.1, fun h => h2.2 (h1.2 h)⟩

theorem Follows.wf_and_closed {α β} {t : List (Ev α)} {u : List (Ev β)} (h : WF t → Follows t u) :
    (WF t → WF u) ∧ (WFClosed t → WFClosed u) :=
  ⟨fun ht => (h ht).1, fun hcl => (h (wf_of_closed hcl)).2 hcl⟩

theorem Follows.wf_and_closed_forall {α β ι} {t : List (Ev α)} {l : List (ι × List (Ev β))}
    (h : WF t → ∀ b ∈ l, Follows t b.2) :
    (WF t → ∀ b ∈ l, WF b.2) ∧ (WFClosed t → ∀ b ∈ l, WFClosed b.2) :=
  ⟨fun ht b hb => (h ht b hb).1, fun hcl b hb => (h (wf_of_closed hcl) b hb).2 hcl⟩

theorem impl_follows {α β} {Q : MuxOp α β} {L : LocalOp α β} {c : Bool} (h : Impl c Q L) {t : List (Ev α)}
    (hc : c = true → CleanTr t) (ht : WF t) : Follows t (Q.run t).flatten := by
  rw [h t ht hc]; exact ⟨ref_wf L t ht, ref_wf_closed L t⟩

/-- **output boundary** of a supported pipeline, on the real (index-addressed) implementation -/
theorem C03_output (P : Pipe) (h : P.Supported) (t : List (Ev Val)) :
    (WF t → WF (P.mux.run t).flatten) ∧ (WFClosed t → WFClosed (P.mux.run t).flatten) :=
  Follows.wf_and_closed (impl_follows (impl_of_implements (P.implements h) false) fun h => nomatch h)

/-- the root: `mux_observable` emits a closed well-formed trace for every item list -/
theorem C03_root {α} (xs : List α) : WFClosed (rootTrace xs) := lifetime_wf [0] xs

theorem Pipe.bounds_follow : ∀ (P : Pipe) (path : String) (i : Nat) (t : List (Ev Val)), P.Supported → WF t →
    ∀ b ∈ P.bounds path i t, Follows t b.2
  | .nil, _, _, _, _, _ => fun _ hb => nomatch hb
  | .cons s rest, path, i, t, h, ht => by
    have hs : Follows t (flatRun s.mux t) :=
      impl_follows (impl_of_implements (s.implements h.1) false) (fun h => nomatch h) ht
    have hsb : s.bounds (path ++ "/" ++ toString i) t = [] := by
      cases s with
      | prim L P => rfl
      | wrap sp ls inner => exact h.1.elim
      | tee m bs => exact h.1.elim
    intro b hb
    simp only [Pipe.bounds, hsb, List.nil_append, List.cons_append, List.mem_cons] at hb
    rcases hb with rfl | hb
    · exact hs
    · exact hs.trans (rest.bounds_follow path (i + 1) _ h.2 hs.1 b hb)

/-- **every internal boundary** of a supported pipeline carries a well-formed trace, closed when
the input is (structural recursion over the pipeline: each boundary is the output of a prefix) -/
theorem C03_all_boundaries : ∀ (P : Pipe) (path : String) (i : Nat) (t : List (Ev Val)), P.Supported →
    (WF t → ∀ b ∈ P.bounds path i t, WF b.2) ∧ (WFClosed t → ∀ b ∈ P.bounds path i t, WFClosed b.2) :=
  fun P path i t h => Follows.wf_and_closed_forall (P.bounds_follow path i t h)

/-- **output boundary of a nested pipeline** (splitters, tee, any depth), index-addressed implementation -/
theorem C03_output_nested (P : Pipe) (h : P.Nested) (t : List (Ev Val)) (hc : CleanTr t) :
    (WF t → WF (P.mux.run t).flatten) ∧ (WFClosed t → WFClosed (P.mux.run t).flatten) :=
  Follows.wf_and_closed (impl_follows (P.implN h) fun _ => hc)

/-- **head of every inner pipeline**: what `group_by`, `roll`, `split`, `time_split` send into their
inner pipeline over a clean well-formed trace is a clean well-formed trace — no two live groups,
windows or segments share a slot index, every inner key is created before use and not used after its
completion — and it is closed (every inner key completed) when the input is closed -/
theorem C03_inner {α} {sp : Splitter α} {ls : LSplit α} (sim : SplitSim sp ls) (t : List (Ev α)) (ht : WF t) (hc : CleanTr t) :
    WF (sp.innerTrace sp.init t) ∧ CleanTr (sp.innerTrace sp.init t) ∧
      (WFClosed t → WFClosed (sp.innerTrace sp.init t)) := split_inner_wf sim t ht hc

/-- `C03_inner` for `group_by`, `roll` (both implementations: `rollSp w s` is `_roll_count` when `w = s`, the
ring otherwise), `split` and `time_split`, for every key function, window/stride ≥ 1 and session
configuration -/
theorem C03_inner_splitters (t : List (Ev Val)) (ht : WF t) (hc : CleanTr t) :
    (∀ f : Val → Val, WF ((groupBySp f).innerTrace (groupBySp f).init t) ∧
        (WFClosed t → WFClosed ((groupBySp f).innerTrace (groupBySp f).init t))) ∧
    (∀ w s, 0 < w → 0 < s → WF ((rollSp (α := Val) w s).innerTrace (rollSp w s).init t) ∧
        (WFClosed t → WFClosed ((rollSp (α := Val) w s).innerTrace (rollSp w s).init t))) ∧
    (∀ f : Val → Val, WF ((splitSp f).innerTrace (splitSp f).init t) ∧
        (WFClosed t → WFClosed ((splitSp f).innerTrace (splitSp f).init t))) ∧
    (∀ c : TsCfg Val, WF ((timeSplitSp c).innerTrace (timeSplitSp c).init t) ∧
        (WFClosed t → WFClosed ((timeSplitSp c).innerTrace (timeSplitSp c).init t))) :=
  have h {sp : Splitter Val} {ls : LSplit Val} (sim : SplitSim sp ls) : Follows t (sp.innerTrace sp.init t) :=
    ⟨(split_inner_wf sim t ht hc).1, (split_inner_wf sim t ht hc).2.2⟩
  ⟨fun f => h (groupBySim f), fun w s hw hs => h (rollSim w s hs hw), fun f => h (splitSim f),
   fun c => h (timeSplitSim c)⟩

mutual
/-- `bounds_follow` for nested pipelines (`N` as in `Pipe.implN`) -/
theorem Stage.bounds_followN : ∀ (s : Stage) (path : String) (t : List (Ev Val)), s.Nested → CleanTr t → WF t →
    ∀ b ∈ s.bounds path t, Follows t b.2
  | .prim _ _, _, _, _, _, _ => fun _ hb => nomatch hb
  | .wrap sp ls inner, path, t, h, hc, ht => by
    obtain ⟨⟨sim⟩, hin⟩ := h
    obtain ⟨w1, w2, w3⟩ := split_inner_wf sim t ht hc
    intro b hb
    rcases List.mem_cons.mp hb with rfl | hb
    · exact ⟨w1, w3⟩
    · exact Follows.trans ⟨w1, w3⟩ (inner.bounds_followN path 0 _ hin w2 w1 b hb)
  | .tee _ bs, path, t, h, hc, ht => bs.bounds_followN path 0 t h.1 hc ht
theorem Pipe.bounds_followN : ∀ (P : Pipe) (path : String) (i : Nat) (t : List (Ev Val)), P.Nested → CleanTr t → WF t →
    ∀ b ∈ P.bounds path i t, Follows t b.2
  | .nil, _, _, _, _, _, _ => fun _ hb => nomatch hb
  | .cons s rest, path, i, t, h, hc, ht => by
    obtain ⟨hs, hr, hor⟩ := h
    have hout : Follows t (flatRun s.mux t) := impl_follows (s.implN hs) (fun _ => hc) ht
    intro b hb
    simp only [Pipe.bounds, List.mem_append, List.mem_cons, List.not_mem_nil, or_false] at hb
    rcases hb with (hb | rfl) | hb
    · exact s.bounds_followN _ t hs hc ht b hb
    · exact hout
    · refine hout.trans ?_
      -- a stage that may emit errors is followed by a flat rest; after a clean stage the trace is clean again and the
      -- rest may nest
      rcases hor with hsup | hcl
      · exact rest.bounds_follow path (i + 1) _ hsup hout.1 b hb
      · have hclean : CleanTr (s.mux.run t).flatten := by
          rw [s.implN hs t ht (fun _ => hc)]
          exact clean_ref s.loc (s.clean_loc hcl) t _ hc
        exact rest.bounds_followN path (i + 1) _ hr hclean hout.1 b hb
theorem Pipes.bounds_followN : ∀ (bs : Pipes) (path : String) (n : Nat) (t : List (Ev Val)), bs.Nested → CleanTr t → WF t →
    ∀ b ∈ bs.bounds path n t, Follows t b.2
  | .nil, _, _, _, _, _, _ => fun _ hb => nomatch hb
  | .cons p rest, path, n, t, h, hc, ht => fun b hb =>
    (List.mem_append.mp hb).elim (p.bounds_followN _ 0 t h.1 hc ht b) (rest.bounds_followN path (n + 1) t h.2 hc ht b)
end

theorem C03_stage_boundaries_nested : ∀ (s : Stage) (path : String) (t : List (Ev Val)), s.Nested → CleanTr t →
    (WF t → ∀ b ∈ s.bounds path t, WF b.2) ∧ (WFClosed t → ∀ b ∈ s.bounds path t, WFClosed b.2) :=
  fun s path t h hc => Follows.wf_and_closed_forall (s.bounds_followN path t h hc)

/-- **every internal boundary of a nested pipeline** — between stages, at the head of every inner
pipeline, inside inner pipelines and tee branches, to any depth — carries a well-formed trace,
closed when the input is.  The versions for one stage (above) and for the branches of a tee (below)
are the other two parts of the same mutual induction. -/
theorem C03_all_boundaries_nested : ∀ (P : Pipe) (path : String) (i : Nat) (t : List (Ev Val)), P.Nested → CleanTr t →
    (WF t → ∀ b ∈ P.bounds path i t, WF b.2) ∧ (WFClosed t → ∀ b ∈ P.bounds path i t, WFClosed b.2) :=
  fun P path i t h hc => Follows.wf_and_closed_forall (P.bounds_followN path i t h hc)

theorem C03_branch_boundaries_nested : ∀ (bs : Pipes) (path : String) (n : Nat) (t : List (Ev Val)), bs.Nested → CleanTr t →
    (WF t → ∀ b ∈ bs.bounds path n t, WF b.2) ∧ (WFClosed t → ∀ b ∈ bs.bounds path n t, WFClosed b.2) :=
  fun bs path n t h hc => Follows.wf_and_closed_forall (bs.bounds_followN path n t h hc)

/-- non-vacuity of `WF`: slot 5 is reused by `[5, 1]` after `done [5]` -/
example : WF ([.create [5], .next [5] 1, .create [2], .done [5], .create [5, 1], .next [2] 3] : List (Ev Nat)) := by
  unfold WF; decide
/-- and refused while `[5]` is live -/
example : ¬ WF ([.create [5], .create [5, 1]] : List (Ev Nat)) := by
  unfold WF; decide

end Rx
