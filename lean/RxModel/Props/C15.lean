import RxModel.Lemmas.Framing
/-!
# C15 — framing round-trips under any re-chunking of the framed stream

All statements are for every item list, every chunking `cs` (including empty chunks and cuts
anywhere), with no bound on sizes.
-/
namespace Rx

/-- **Line framing, any chunking.**  `items` contain no newline (they are lines), `tail` is a
possibly empty unterminated last line.  However the framed text is cut into chunks, the lines
emitted while chunks are consumed are exactly `items`, in order, and at completion exactly the
non-empty tail is delivered (once). -/
theorem C15_line (items : List (List Char)) (tail : List Char) (cs : List (List Char))
    (hi : ∀ it ∈ items, '\n' ∉ it) (ht : '\n' ∉ tail)
    (hcs : cs.flatten = (items.map lineFrame).flatten ++ tail) :
    (lineRun [] cs).1.flatten = items ∧
    (lineRun [] cs).2 = (if tail = [] then [] else [tail]) :=
  lineRunG_frames '\n' items tail cs hi ht hcs

/-- chunk invariance stated without reference to framing: two chunkings of the same text give the
same lines and the same completion output. -/
theorem C15_line_rechunk (cs cs' : List (List Char)) (h : cs.flatten = cs'.flatten) :
    (lineRun [] cs).1.flatten = (lineRun [] cs').1.flatten ∧ (lineRun [] cs).2 = (lineRun [] cs').2 := by
  obtain ⟨a1, a2⟩ := lineRun_eq cs [] List.not_mem_nil
  obtain ⟨b1, b2⟩ := lineRun_eq cs' [] List.not_mem_nil
  rw [a1, a2, b1, b2, h]
  exact ⟨rfl, rfl⟩

/-- `int.to_bytes` / `int.from_bytes` round trip for every prefix size and both byte orders. -/
theorem C15_prefix_roundtrip (big : Bool) (p n : Nat) (h : n < 256 ^ p) :
    fromBytes big (toBytes big p n) = n ∧ (toBytes big p n).length = p ∧
    ∀ b ∈ toBytes big p n, b < 256 :=
  ⟨fromBytes_toBytes big p n h, toBytes_length big p n, toBytes_lt big p n⟩

/-- **Length-prefix framing, any chunking, any prefix size ≥ 1, both byte orders.**
`tail` is any byte string that holds no complete frame (in particular any strict prefix of a
frame): exactly `items` are delivered, in order, `tail` stays undelivered (the operator's
completion handler emits nothing). Payload bytes are arbitrary. -/
theorem C15_lp (big : Bool) (p : Nat) (hp : 0 < p) (items : List (List Nat)) (tail : List Nat)
    (cs : List (List Nat))
    (hlen : ∀ it ∈ items, it.length < 256 ^ p)
    (htail : (lpParse big p tail).1 = [] ∧ (lpParse big p tail).2 = tail)
    (hcs : cs.flatten = (items.filterMap (lpFrame big p)).flatten ++ tail) :
    (lpRun big p [] cs).1.flatten = items ∧ (lpRun big p [] cs).2 = tail := by
  have h := lpRun_eq_parse big p cs [] (lpParse_nil big p)
  rw [List.nil_append, hcs, filterMap_lpFrame big p items hlen,
    lpParse_frames big p hp items tail hlen (Prod.ext htail.1 htail.2)] at h
  exact Prod.ext_iff.mp h

set_option linter.unusedVariables false in
/-- a strict prefix of a frame holds no complete frame (so `C15_lp` applies to every truncation; `hp` is
not used) -/
theorem C15_lp_incomplete (big : Bool) (p : Nat) (hp : 0 < p) (item : List Nat) (k : Nat)
    (hlen : item.length < 256 ^ p) (hk : k < p + item.length) :
    let tail := (toBytes big p item.length ++ item).take k
    (lpParse big p tail).1 = [] ∧ (lpParse big p tail).2 = tail :=
  Prod.ext_iff.mp (lpParse_prefix big item (toBytes_length big p _) (fromBytes_toBytes big p _ hlen) k hk)

/-- an item is framed exactly when its length fits in `p` prefix bytes (otherwise `none`, the code's
error path) -/
theorem C15_lp_frame_guard (big : Bool) (p : Nat) (item : List Nat) :
    (lpFrame big p item).isSome ↔ item.length < 256 ^ p := by
  unfold lpFrame; split <;> simp [*]

/-- non-vacuity of `htail` in `C15_lp`: the frame of `[7, 8, 9]` with a two-byte prefix, cut after its
first payload byte -/
example : (lpParse false 2 [3, 0, 7]).1 = [] ∧ (lpParse false 2 [3, 0, 7]).2 = [3, 0, 7] :=
  C15_lp_incomplete false 2 (by decide) [7, 8, 9] 3 (by decide) (by decide)

/-- a line cut across two chunks, an empty line, an empty chunk -/
example : (lineRun [] ["ab\ncd".toList, "e\n\nf".toList, []]).1.flatten =
    ["ab".toList, "cde".toList, []] := by decide

end Rx
