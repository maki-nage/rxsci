import RxGen.Handlers
import RxModel.Lemmas.HandlerSim
import RxModel.Lemmas.PyValLemmas
/-!
# C07 link theorems: the expiry predicate of the model (`tsExpired`) is the function generated from
`time_split_mux._session_has_expired`, on integer timestamps and optional integer timeouts; the `on_next` handler of
`time_split_mux`, generated from rxsci/data/time_split.py, IS the model's `tsStep`.
-/
namespace Rx

/-- an optional integer timeout as the code sees it: `None` when there is none -/
def optInt : Option Int → Val
  | some a => .int a
  | none => .none

/-- rxsci/data/time_split.py `_session_has_expired` on integer timestamps and optional integer timeouts -/
theorem Link_session_has_expired {α} (c : TsCfg α) (start last new : Int) :
    Gen.session_has_expired (V := Val) (optInt c.active) (optInt c.inactive) (.int start) (.int last) (.int new)
      = .ok (.bool (tsExpired c start last new)) := by
  unfold Gen.session_has_expired tsExpired
  rcases c.active with _ | a <;> rcases c.inactive with _ | b <;>
    simp only [optInt, isNone_int, isNone_noneV, add_int, le_int, ok_bind, pure_bind, ge_iff_le, Bool.not_true, Bool.not_false, if_true,
      if_false, Bool.false_eq_true, Bool.or_false, Bool.false_or]
  · rfl
  · cases decide (last + b ≤ new) <;> rfl
  · cases decide (start + a ≤ new) <;> rfl
  · cases decide (start + a ≤ new) <;> cases decide (last + b ≤ new) <;> rfl

open HM

/-- the model's time_split state (one slot holding `(start, last)`) as the two slot arrays of the code's states -/
def repTs (st : TsSt) : Nat → Nat → Slot Val := fun sid i =>
  if sid = 0 then (st i).map (fun o => o.map (fun p => Val.int p.1))
  else if sid = 1 then (st i).map (fun o => o.map (fun p => Val.int p.2))
  else none

theorem repTs_zero (st : TsSt) (i : Nat) : repTs st 0 i = (st i).map (fun o => o.map (fun p => Val.int p.1)) := rfl
theorem repTs_one (st : TsSt) (i : Nat) : repTs st 1 i = (st i).map (fun o => o.map (fun p => Val.int p.2)) := rfl

theorem repTs_upd (st : TsSt) (i : Nat) (v : Option (Option (Int × Int))) :
    repTs (upd st i v) = updSlot (updSlot (repTs st) 0 i (v.map (fun o => o.map (fun p => Val.int p.1)))) 1 i
      (v.map (fun o => o.map (fun p => Val.int p.2))) := by
  funext sid j
  rcases sid with _ | _ | sid <;> by_cases h3 : j = i <;> simp [repTs, updSlot, upd, h3]

theorem repTs_set (st : TsSt) (i : Nat) (a b : Int) :
    updSlot (updSlot (repTs st) 0 i (some (some (.int a)))) 1 i (some (some (.int b))) = repTs (upd st i (some (some (a, b)))) :=
  (repTs_upd st i (some (some (a, b)))).symm

theorem repTs_touch {st : TsSt} {i : Nat} {a b : Int} (h : st i = some (some (a, b))) (b' : Int) :
    updSlot (repTs st) 1 i (some (some (.int b'))) = repTs (upd st i (some (some (a, b')))) := by
  have h0 : repTs st 0 i = some (some (.int a)) := by rw [repTs_zero, h]; rfl
  rw [← repTs_set, updSlot_eq_self h0]

/-- the configuration of the model's time_split as the arguments the code's `time_split_mux` is created with -/
def tsTime {α} (c : TsCfg α) : α → Except Err Val := fun v => .ok (.int (c.time v))
def tsClosing {α} (c : TsCfg α) : Option (α → Except Err Val) := c.closing.map (fun f v => .ok (.bool (f v)))

/-- `time_split_mux`: the generated handler (two states: window reference timestamp, last timestamp) is the model's `tsStep`,
for every configuration (timeouts present or `None`, closing mapper or none, include flag), on every event whose key has a live slot -/
theorem LinkH_time_split (c : TsCfg Val) (st : TsSt) (ev : Ev Val)
    (hlive : ∀ k, ((∃ v, ev = .next k v) ∨ ev = .done k ∨ (∃ e, ev = .err k e)) → st k.idx ≠ none) :
    runH2 (Gen.time_split_mux_on_next (tsTime c) (tsClosing c) c.incl (optInt c.active) (optInt c.inactive) ev) (repTs st)
      = (.ok (), repTs (tsStep c st ev).1, (tsStep c st ev).2.1, (tsStep c st ev).2.2.map OEv.toEv) := by
  refine runH2_of_stepOut ?_
  unfold Gen.time_split_mux_on_next
  cases ev with
  | create k => simp only [run_simps, tsStep, repTs_upd]
  | next k v =>
    cases h : st k.idx with
    | none => exact absurd h (hlive k (Or.inl ⟨v, rfl⟩))
    | some cur =>
      -- the join points of the `do` block as local definitions: `jtail` is the code after `if start_timestamp is NOTSET: …`
      simp -zeta only [tsTime, liftM_ok, pure_bind]
      lift_lets
      intro t jnext jclose jtail start
      -- from a slot that is set, `jtail` is the whole step
      have htail : ∀ (st' : TsSt) (s0 l0 : Int) (o : List (Ev Val)), st' k.idx = some (some (s0, l0)) →
          runS (jtail () (some (.int l0)) (some (.int s0))) { stores := repTs st', out := o }
            = stepOut (fun s => { stores := repTs s, out := o }) (tsStep c st' (.next k v)) := by
        intro st' s0 l0 o h'
        cases hcl : c.closing with
        | none =>
          simp only [jtail, jnext, t, run_simps, ↓reduceIte, tsStep, h', Link_session_has_expired, truthy_boolV, tsClosing, hcl, TsCfg.closes,
            ik, repTs_set, repTs_touch h']
        | some f =>
          simp only [jtail, jclose, jnext, t, run_simps, ↓reduceIte, tsStep, h', Link_session_has_expired, truthy_boolV, isTrue_boolV, tsClosing,
            hcl, TsCfg.closes, ik, repTs_set, repTs_touch h']
          -- the code tests `include_closing_item` twice
          cases c.incl <;> rfl
      cases cur with
      | none =>
        -- NOTSET: both states are set to the item's time and the window is opened, then `jtail` runs from that slot;
        -- the model's step from NOTSET and its step from `(t, t)` unfold to the same tree
        have hu := upd_same st k.idx (some (some (c.time v, c.time v)))
        simp only [start, t, run_simps, ↓reduceIte, repTs_zero, repTs_one, h, repTs_set, htail _ _ _ _ hu, tsStep, hu, upd_upd, ik]
      | some sl => simp only [run_simps, ↓reduceIte, repTs_zero, repTs_one, h, htail _ _ _ _ h]
  | done k | err k e =>
    cases h : st k.idx with
    | none => exact absurd h (hlive k (by simp))
    | some cur => cases cur <;> simp only [run_simps, ↓reduceIte, tsStep, repTs_upd, repTs_zero, h, ik]
  | fatal e => simp only [run_simps, tsStep]

end Rx
