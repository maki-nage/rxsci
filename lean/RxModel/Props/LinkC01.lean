import RxGen.Handlers
import RxModel.Plain
import RxModel.Lemmas.PyHandlerLemmas
import RxModel.Lemmas.PyValLemmas
/-!
# C01 link theorems, plain side: the hand-written plain path of `scan` (`scan_obs`: closures `on_next(i)` / `on_completed()`
over the `nonlocal` variables `state`, `has_state`), generated from rxsci/operators/scan.py, IS the model's plain operator
`pScan` — on which the plain side of C01 (and every operator rxsci defines through `scan`: count, to_list, the math
aggregates, batch, distinct_until_changed …) rests.  The other dual operators delegate their plain path to RxPY
(`ops.map`, `ops.first`, …: trusted plumbing, §I.4).
-/
namespace Rx
open PM

/-- the closure variables of `scan_obs` for the model state `s` (`none`: no item yet): #0 `has_state`, #1 `state` -/
def repP (s : Option Val) : Nat → Val := fun k =>
  if k = 0 then Val.bool s.isSome else if k = 1 then s.getD Val.none else Val.none

/-- what an observer of the plain operator has seen: the items, then `on_error` if an exception escaped -/
def obsOut (r : Except Err Unit × PSt Val) : List (LOut Val) :=
  r.2.out.map LOut.item ++ (match r.1 with | .error e => [LOut.fatal e] | .ok _ => [])

theorem repP_init : PM.initVars (Gen.scan_obs_init (V := Val)) = repP none := by
  funext k
  match k with
  | 0 => rfl
  | 1 => rfl
  | k + 2 => rfl

theorem repP_set (s : Option Val) (a : Val) :
    (fun j => if j = 0 then Val.bool true else if j = 1 then a else repP s j) = repP (some a) := by
  funext j
  by_cases h0 : j = 0 <;> by_cases h1 : j = 1 <;> simp [repP, h0, h1]

theorem repP_zero (s : Option Val) : repP s 0 = Val.bool s.isSome := rfl
theorem repP_one (s : Option Val) : repP s 1 = s.getD Val.none := rfl

theorem scan_obs_next_run (g : Val → Val → Except Err Val) (seed : Val) (reduce : Bool) (s : Option Val) (x : Val) :
    runP (Gen.scan_obs_on_next seed g reduce x) { vars := repP s }
      = match g (s.getD seed) x with
        | .ok a => (.ok (), { vars := repP (some a), out := if reduce then [] else [a] })
        | .error e => (.error e, { vars := repP s }) := by
  unfold Gen.scan_obs_on_next
  cases s <;> simp only [run_simps, ↓reduceIte, repP_zero, repP_one, isFalse_boolV]
  case none => cases g seed x <;> simp only [run_simps, PyAlg.bool, repP_set] <;> cases reduce <;> rfl
  case some v => cases g v x <;> simp only [run_simps, PyAlg.bool, repP_set] <;> cases reduce <;> rfl

/-- `scan_obs.on_next` (the plain path of `scan`, hand-written in rxsci): the generated closure is `pScan.next` — the new closure
variables, the items emitted, an accumulator exception escaping (RxPY turns it into `on_error`) with the variables unchanged -/
theorem LinkP_scan_next (g : Val → Val → Except Err Val) (seed : Val) (reduce : Bool) (term : Option (Val → Val))
    (s : Option Val) (x : Val) :
    let r := PM.run (Gen.scan_obs_on_next seed g reduce x) (repP s)
    let m := (pScan g seed reduce term).next s x
    r.2.vars = repP m.1 ∧ obsOut r = m.2.1 ∧ r.2.completed = m.2.2 := by
  simp only [PM.run_eq, scan_obs_next_run, pScan]
  cases g (s.getD seed) x <;> cases reduce <;> exact ⟨rfl, rfl, rfl⟩

theorem scan_obs_completed_run (seed : Val) (reduce : Bool) (term : Option (Val → Val)) (s : Option Val) :
    runP (Gen.scan_obs_on_completed (term.map (fun t v => Except.ok (t v))) seed reduce) { vars := repP s }
      = (.ok (), { vars := repP (match term with | some t => some (t (s.getD seed)) | none => s),
                   out := match term with | some t => [t (s.getD seed)] | none => if reduce then [s.getD seed] else [],
                   completed := true }) := by
  unfold Gen.scan_obs_on_completed
  cases term <;> cases s <;>
    simp only [run_simps, ↓reduceIte, repP_zero, repP_one, isFalse_boolV, PyAlg.bool, repP_set] <;>
    cases reduce <;> rfl

/-- `scan_obs.on_completed`: the generated closure emits `scanFin` (the terminator's value, or in reduce mode the last
accumulator or the seed) and then completes -/
theorem LinkP_scan_fin (seed : Val) (reduce : Bool) (term : Option (Val → Val)) (s : Option Val) :
    let r := PM.run (Gen.scan_obs_on_completed (term.map (fun t v => Except.ok (t v))) seed reduce) (repP s)
    obsOut r = (pScan (α := Val) (fun a _ => .ok a) seed reduce term).fin s ∧ r.2.completed = true := by
  simp only [PM.run_eq, scan_obs_completed_run, and_true]
  cases term <;> cases reduce <;> rfl

end Rx
