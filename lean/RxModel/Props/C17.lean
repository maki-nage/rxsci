import RxModel.Lemmas.Codec
/-!
# C17 — incremental text encode/decode is chunk-boundary independent

`encodeRun` / `decodeRun` are rxsci's `encode` / `decode` operators over the incremental coders:
one coder state threaded through all items, one final flush.  The encodings themselves
(utf-8, utf-16, utf-32, latin-1) are implemented in the model, not assumed.
-/
namespace Rx

theorem encodeRun_flatten (e : Enc) (ss : List (List Nat)) (w : Bool) :
    (encodeRun e w ss).flatten = encFinish e w ++ ss.flatten.flatMap (encChar e false) := by
  induction ss generalizing w with
  | nil => rfl
  | cons s ss ih =>
    rw [encodeRun, List.flatten_cons, ih, List.flatten_cons, List.flatMap_append]
    -- the first feed writes what `encFinish e w` would, and nothing is left for later
    exact List.append_assoc ..

/-- the BOM is written exactly once, at the very start — also when there is no string at all -/
theorem C17_bom_once (e : Enc) (ss : List (List Nat)) :
    (encodeRun e false ss).flatten = bom e false ++ ss.flatten.flatMap (encChar e false) :=
  encodeRun_flatten e ss false

theorem decodeRun_cons_ok {e : Enc} {st st' : DecSt} {c o : List Nat} (cs : List (List Nat)) {outs : List (List Nat)}
    (h : decFeed e st c = .ok (st', o)) (h2 : decodeRun e st' cs = .ok outs) :
    decodeRun e st (c :: cs) = .ok (o :: outs) := by
  rw [decodeRun, h]
  exact congrArg (· >>= fun rest => pure (o :: rest)) h2

theorem decodeRun_chunked (e : Enc) (big : Bool) (pend : List Nat) (cs : List (List Nat))
    (h : (chunked (decAll e big) pend cs).2 = []) :
    decodeRun e ⟨some big, pend⟩ cs = .ok ((chunked (decAll e big) pend cs).1 ++ [[]]) := by
  induction cs generalizing pend with
  | nil => cases (show _ = [] from h); rfl
  | cons c cs ih => exact decodeRun_cons_ok cs rfl (ih _ h)

/-- once the byte order is known: feeding chunk by chunk = greedy decoding of the concatenation -/
theorem decodeRun_known (e : Enc) (big : Bool) (pend : List Nat) (cs : List (List Nat))
    (h1 : decAll e big pend = ([], pend)) (h2 : (decAll e big (pend ++ cs.flatten)).2 = []) :
    ∃ outs, decodeRun e ⟨some big, pend⟩ cs = .ok outs ∧ outs.flatten = (decAll e big (pend ++ cs.flatten)).1 := by
  rw [← (decAll_splits e big).chunked_eq_parse pend cs h1] at h2 ⊢
  exact ⟨_, decodeRun_chunked e big pend cs h2, List.flatten_append.trans (List.append_nil _)⟩

/-- utf-16 / utf-32: while the BOM is incomplete nothing is emitted; then as above -/
theorem decodeRun_bom (e : Enc) (body : List Nat) (hbody : (decAll e false body).2 = [])
    (pend : List Nat) (cs : List (List Nat)) (hp : pend.length < (bom e false).length)
    (hs : pend ++ cs.flatten = bom e false ++ body) :
    ∃ outs, decodeRun e ⟨none, pend⟩ cs = .ok outs ∧ outs.flatten = (decAll e false body).1 := by
  induction cs generalizing pend with
  | nil =>
    rw [List.flatten_nil, List.append_nil] at hs
    rw [hs, List.length_append] at hp
    exact absurd hp (Nat.not_lt.mpr (Nat.le_add_right _ _))
  | cons c cs ih =>
    rw [List.flatten_cons, ← List.append_assoc] at hs
    by_cases hlen : (pend ++ c).length < (bom e false).length
    · obtain ⟨outs, ho1, ho2⟩ := ih (pend ++ c) hlen hs
      exact ⟨[] :: outs, decodeRun_cons_ok cs (if_pos hlen) ho1, ho2⟩
    · -- the BOM is complete: `pend ++ c = bom ++ d` and the body is `d ++ cs.flatten`
      have hge := Nat.le_of_not_lt hlen
      have htake : (pend ++ c).take (bom e false).length = bom e false := by
        rw [← List.take_append_of_le_length hge (l₂ := cs.flatten), hs, List.take_left]
      have hdrop : (pend ++ c).drop (bom e false).length ++ cs.flatten = body := by
        rw [← List.drop_append_of_le_length hge, hs, List.drop_left]
      have happ := decAll_splits e false ((pend ++ c).drop (bom e false).length) cs.flatten
      rw [hdrop] at happ
      rw [happ] at hbody ⊢
      obtain ⟨outs, ho1, ho2⟩ := decodeRun_known e false _ cs ((decAll_splits e false).idem _) hbody
      exact ⟨_ :: outs, decodeRun_cons_ok cs ((if_neg hlen).trans (if_pos htake)) ho1, congrArg _ ho2⟩

/-- **round trip under any re-chunking**: for every supported encoding, every list of strings the
encoding can represent, and EVERY way of cutting the encoded bytes into chunks (inside multi-byte
sequences, inside the BOM, empty chunks), decoding succeeds and the concatenated text equals the
concatenation of the original strings — nothing lost, duplicated or replaced at a boundary -/
theorem C17_roundtrip (e : Enc) (ss : List (List Nat)) (cs : List (List Nat))
    (hok : ∀ s ∈ ss, ∀ c ∈ s, e.ok c = true)
    (hcs : cs.flatten = (encodeRun e false ss).flatten) :
    ∃ outs, decodeRun e (decInit e) cs = .ok outs ∧ outs.flatten = ss.flatten := by
  rw [C17_bom_once] at hcs
  have henc := decAll_encoded e false ss.flatten fun c hc => by
    obtain ⟨s, hs, hc⟩ := List.mem_flatten.mp hc
    exact hok s hs c hc
  -- utf-8 and latin-1 have no BOM and start with the byte order known; utf-16 and utf-32 wait for it
  cases e with
  | utf8 | latin1 =>
    have hcs' : [] ++ cs.flatten = ss.flatten.flatMap (encChar _ false) := hcs
    obtain ⟨outs, h1, h2⟩ := decodeRun_known _ false [] cs (decAll_encoded _ false [] nofun)
      (by rw [hcs', henc])
    exact ⟨outs, h1, by rw [h2, hcs', henc]⟩
  | utf16 | utf32 =>
    obtain ⟨outs, h1, h2⟩ := decodeRun_bom _ _ (congrArg Prod.snd henc) [] cs (by decide) hcs
    exact ⟨outs, h1, h2.trans (congrArg Prod.fst henc)⟩

/-- one character survives encode → decode for every encoding and either byte order -/
theorem C17_char_roundtrip (e : Enc) (big : Bool) (c : Nat) (rest : List Nat) (h : e.ok c = true) :
    dec1 e big (encChar e big c ++ rest) = some (c, rest) := dec1_enc e big c rest h

/-- non-vacuity of `C17_roundtrip`: "a😀" then "é" in utf-16, cut inside the BOM and inside the surrogate pair -/
example : ∃ outs, decodeRun .utf16 (decInit .utf16) [[0xFF], [0xFE, 0x61, 0x00, 0x3D], [0xD8, 0x00], [0xDE, 0xE9, 0x00]] = .ok outs ∧
    outs.flatten = [0x61, 0x1F600, 0xE9] :=
  C17_roundtrip .utf16 [[0x61, 0x1F600], [0xE9]] _ (by decide) (by decide)

end Rx
