import RxGen.Kernels
import RxModel.Lemmas.RunM
import RxModel.Lemmas.PyValLemmas
/-!
# C12 link theorems (1): the model's math operators ARE the stage lists generated from the source

`genPipe` interprets a generated stage list (`rx.pipe(scan(...), map(...))` of the source, kernels
translated by harness/pygen.py) as a model pipeline at `Val`.  Each theorem says that the hand-written
operator the driver executes (and the correspondence check compares with CPython bit for bit) equals
that pipeline, for every key mapper and both `reduce` settings.
-/
namespace Rx

theorem gen_sum_accumulate (key : D.F1) :
    Gen.sum_accumulate (V := Val) key = (fun acc i => do let k ← key i; Val.add acc k) := by
  funext acc i
  simp only [Gen.sum_accumulate, PyAlg.add]

theorem gen_mean_accumulate (key : D.F1) :
    Gen.mean_accumulate (V := Val) key = (fun acc i => do
      let k ← key i
      let a ← Val.add (acc.nth 0) k
      let c ← Val.add (acc.nth 1) (.int 1)
      pure (Val.tup [a, c])) := rfl

theorem gen_mean_result :
    Gen.mean_result (V := Val) = (fun acc => if acc = .none then pure .none else Val.div (acc.nth 0) (acc.nth 1)) := by
  funext acc
  simp only [Gen.mean_result, PyAlg.isNone, PyAlg.div, PyAlg.nth, PyAlg.none, Bool.not_eq_true', beq_eq_false_iff_ne, ne_eq,
    ite_not]

theorem Link_sum (key : D.F1) (r : Bool) : genPipe (Gen.sum_stages key r) = Pipe.ofList [D.sum key r] := by
  simp only [genPipe, Gen.sum_stages, List.map, GStage.toStage, D.sum, Option.map, gen_sum_accumulate]
  rfl

theorem Link_mean (key : D.F1) (r : Bool) : genPipe (Gen.mean_stages key r) = D.mean key r := by
  simp only [genPipe, Gen.mean_stages, List.map, List.cons_append, List.nil_append, GStage.toStage, D.mean, Option.map,
    gen_mean_accumulate, gen_mean_result]
  rfl

theorem gen_min_accumulate (key : D.F1) :
    Gen.min_accumulate (V := Val) key = (fun acc i => do
      let k ← key i
      if acc = .none then pure k
      else
        let b ← Val.lt k acc
        pure (if b then k else acc)) := by
  funext acc i
  simp only [Gen.min_accumulate, PyAlg.isNone, PyAlg.lt, beq_iff_eq, apply_ite pure]
  congr 1; funext k
  split <;> rfl

theorem gen_max_accumulate (key : D.F1) :
    Gen.max_accumulate (V := Val) key = (fun acc i => do
      let k ← key i
      if acc = .none then pure k
      else
        let b ← Val.lt acc k
        pure (if b then k else acc)) := by
  funext acc i
  simp only [Gen.max_accumulate, PyAlg.isNone, PyAlg.lt, beq_iff_eq, apply_ite pure]
  congr 1; funext k
  split <;> rfl

theorem Link_min (key : D.F1) (r : Bool) : genPipe (Gen.min_stages key r) = Pipe.ofList [D.minmax false key r] := by
  simp only [genPipe, Gen.min_stages, List.map, GStage.toStage, D.minmax, Option.map, gen_min_accumulate]
  rfl

theorem Link_max (key : D.F1) (r : Bool) : genPipe (Gen.max_stages key r) = Pipe.ofList [D.minmax true key r] := by
  simp only [genPipe, Gen.max_stages, List.map, GStage.toStage, D.minmax, Option.map, gen_max_accumulate]
  rfl

theorem gen_variance_accumulate (key : D.F1) : Gen.variance_accumulate (V := Val) key = D.welford key := by
  funext acc i
  simp only [Gen.variance_accumulate, D.welford, PyAlg.isNone, PyAlg.nth, PyAlg.add, PyAlg.sub, PyAlg.mul, PyAlg.div, PyAlg.int,
    PyAlg.tup, beq_iff_eq]

theorem gen_variance_result : Gen.variance_result (V := Val) = D.welfordResult := by
  funext acc
  simp only [Gen.variance_result, D.welfordResult, PyAlg.lt, PyAlg.nth, PyAlg.int, PyAlg.sub, PyAlg.div, PyAlg.flit, D.flit]

theorem gen_stddev_result : Gen.stddev_result (V := Val) = (fun v => if v = .none then pure .none else Val.sqrt v) := by
  funext v
  simp only [Gen.stddev_result, PyAlg.isNone, PyAlg.sqrt, PyAlg.none, Bool.not_eq_true', beq_eq_false_iff_ne, ne_eq, ite_not]

theorem Link_variance (key : D.F1) (r : Bool) : genPipe (Gen.variance_stages key r) = D.variance key r := by
  simp only [genPipe, Gen.variance_stages, List.map, List.cons_append, List.nil_append, GStage.toStage, D.variance, Option.map,
    gen_variance_accumulate, gen_variance_result]
  rfl

theorem Link_stddev (key : D.F1) (r : Bool) : genPipe (Gen.stddev_stages key r) = D.stddev key r := by
  simp only [Gen.stddev_stages, genPipe_append, Link_variance, D.stddev]
  simp only [genPipe, List.map, GStage.toStage, gen_stddev_result, D.sqrtMap]

/-- the `for` loop of `_moment`: appending `(x_i - c) ** n` to `m` for every element -/
theorem moment_loop (c n : Val) (xs : List Val) (m0 : List Val) :
    (forIn xs (Val.lst m0) (fun x_i r => do
        let t2 ← PyAlg.sub x_i c
        let t3 ← PyAlg.pow t2 n
        let t4 ← PyAlg.append r t3
        pure (ForInStep.yield t4)) : Except Err Val)
      = (do let ms ← xs.mapM (fun x => do let d ← Val.sub x c; Val.pow d n); pure (Val.lst (m0 ++ ms))) := by
  induction xs generalizing m0 with
  | nil => simp only [List.forIn_nil, List.mapM_nil, pure_bind, List.append_nil]
  | cons x xs ih =>
    simp only [List.forIn_cons, List.mapM_cons, bind_assoc]
    show ((Val.sub x c) >>= _) = _
    cases (Val.sub x c) with
    | error e => rfl
    | ok d =>
      simp only [ok_bind]
      show ((Val.pow d n) >>= _) = _
      cases (Val.pow d n) with
      | error e => rfl
      | ok p => simp only [ok_bind, append_lst, pure_bind, ih, List.append_assoc, List.singleton_append]

theorem gen_fvariance_accumulate (key : D.F1) :
    Gen.fvariance_accumulate (V := Val) key = (fun acc i => do let k ← key i; toListAcc acc k) := by
  funext acc i
  simp only [Gen.fvariance_accumulate, PyAlg.append, bind_pure]

/-- `pow` at `_natV`, in the naming of Lemmas/PyValLemmas.lean -/
theorem pow_nat (d : Val) (n : Nat) : Val.pow d (.int n) = D.powV d n := rfl

theorem gen_moment (x c : Val) (n : Nat) : Gen.moment x c (.int n) = D.momentV x c n := by
  simp only [Gen.moment, D.momentV, PyAlg.elems, PyAlg.lst]
  cases hx : x.elemsE with
  | error e => rfl
  | ok xs =>
    have hloop := moment_loop c (.int n) xs []
    simp only [List.nil_append] at hloop
    simp only [ok_bind, hloop, D.moment, PyAlg.len, lenV_of_elemsE x xs hx, PyAlg.int, lt_int, bind_assoc, pure_bind, pow_nat,
      Int.natCast_pos, sum_lst, PyAlg.div, PyAlg.none, decide_eq_true_eq]

theorem gen_fvariance_result : Gen.fvariance_result (V := Val) = D.fvarianceResult := by
  funext acc
  have h1 : ∀ c, Gen.moment acc c (Val.int 1) = D.momentV acc c 1 := fun c => gen_moment acc c 1
  have h2 : ∀ c, Gen.moment acc c (Val.int 2) = D.momentV acc c 2 := fun c => gen_moment acc c 2
  simp only [Gen.fvariance_result, D.fvarianceResult, PyAlg.len, PyAlg.eq, PyAlg.int, PyAlg.flit, D.flit, beq_iff_eq, h1, h2, bind_pure]

theorem Link_formal_variance (key : D.F1) (r : Bool) : genPipe (Gen.fvariance_stages key r) = D.fvariance key r := by
  simp only [genPipe, Gen.fvariance_stages, List.map, List.cons_append, List.nil_append, GStage.toStage, D.fvariance, Option.map,
    gen_fvariance_accumulate, gen_fvariance_result]
  rfl

/-- the lambda of `formal_stddev` is word for word that of `stddev` -/
theorem gen_fstddev_result : Gen.fstddev_result (V := Val) = (fun v => if v = .none then pure .none else Val.sqrt v) :=
  gen_stddev_result

theorem Link_formal_stddev (key : D.F1) (r : Bool) : genPipe (Gen.fstddev_stages key r) = D.fstddev key r := by
  simp only [Gen.fstddev_stages, genPipe_append, Link_formal_variance, D.fstddev]
  simp only [genPipe, List.map, GStage.toStage, gen_fstddev_result, D.sqrtMap]
end Rx
