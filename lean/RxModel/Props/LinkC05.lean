import RxGen.Handlers
import RxModel.Lemmas.HandlerSim
import RxModel.Lemmas.PyValLemmas
/-!
# C05 link theorem: the `on_next` handler of `roll_mux._roll_count` (window = stride), generated from rxsci/data/roll.py,
IS the model's `rollCountStep` (the tumbling path, `C05_tumbling`).  The ring path `_roll` (window ≠ stride) is in LinkC05Ring.lean.
-/
namespace Rx

open HM

/-- `encNat` of LinkH.lean (a Link module imports no other) -/
def encCnt (c : Nat) : Option Val := some (.int (c : Int))

/-- `_roll_count` (roll with window = stride): the generated handler is the model's `rollCountStep` -/
theorem LinkH_roll_count (w : Nat) (st : Nat → Option Nat) (ev : Ev Val)
    (hlive : ∀ k, ((∃ v, ev = .next k v) ∨ ev = .done k ∨ (∃ e, ev = .err k e)) → st k.idx ≠ none) :
    runH2 (Gen.roll_count_on_next (.int (w : Int)) ev) (repSt encCnt st)
      = (.ok (), repSt encCnt (rollCountStep w st ev).1, (rollCountStep w st ev).2.1, (rollCountStep w st ev).2.2.map OEv.toEv) := by
  refine runH2_of_stepOut ?_
  unfold Gen.roll_count_on_next
  cases ev with
  | create k => simp only [run_simps, rollCountStep, repSt_upd, encCnt, PyAlg.int]; rfl
  | next k v =>
    cases h : st k.idx with
    | none => exact absurd h (hlive k (Or.inl ⟨v, rfl⟩))
    | some c =>
      simp only [run_simps, rollCountStep, repSt_upd, repSt_apply, h, encCnt, PyAlg.int, eq_natV0, add_natV1, eq_natV, decide_eq_true_eq, ik]
      -- the first item of a window, or a later one
      rcases c with _ | c <;> simp only [Nat.add_one_ne_zero, run_simps] <;> rfl
  | done k | err k e =>
    cases h : st k.idx with
    | none => exact absurd h (hlive k (by simp))
    | some c =>
      simp only [run_simps, rollCountStep, repSt_upd, repSt_apply, h, encCnt, PyAlg.int, lt_zero_natV, decide_eq_true_eq, gt_iff_lt, ik]
      rcases c with _ | c <;> simp only [Nat.lt_irrefl, Nat.zero_lt_succ, run_simps]
  | fatal e => simp only [run_simps, rollCountStep]

end Rx
