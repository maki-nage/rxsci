import RxGen.Handlers
import RxModel.Pipeline
import RxModel.Lemmas.PyHandlerLemmas
import RxModel.Lemmas.Tee
/-!
# C08 link theorem: `on_next(i, x)` of the multiplexed join of `tee_map` (`_process_many.subscribe_mux`), generated from
rxsci/operators/tee_map.py, IS the model's `joinStep` (Tee.lean) — for `merge`, `zip` and `combine_latest`

The join keeps two Python lists in its closure, `queue` and `has_next`, addressed by `key[0]*n + branch`; the translator maps
them to `HSt.jq` / `HSt.jh` with `append`, item assignment (IndexError past the end) and slices.  The model keeps two total
functions; `qrep L` / `hrep L` are the lists of length `L` that hold them.  The lists grow at the creation of a key on branch 0
(`joinLen`); `join_inv`: the side conditions of `LinkH_tee_join` are invariants of the reachable states.
-/
namespace Rx
open HM

/-- the Python lists `queue` / `has_next`, at length `L`, for the model's `q` / `h` (an empty cell of the queue holds `None`) -/
def qrep (L : Nat) (q : Nat → Option Val) : List Val := (List.range L).map (fun j => (q j).getD Val.none)
def hrep (L : Nat) (h : Nat → Bool) : List Bool := (List.range L).map h

theorem qrep_length (L q) : (qrep L q).length = L := by simp [qrep]
theorem hrep_length (L h) : (hrep L h).length = L := by simp [hrep]

theorem qrep_set (L : Nat) (q : Nat → Option Val) (i : Nat) (o : Option Val) :
    (qrep L q).set i (o.getD Val.none) = qrep L (fun j => if j = i then o else q j) := by
  rw [qrep, map_range_set]
  exact List.map_congr_left fun j _ => (apply_ite (·.getD Val.none) (j = i) o (q j)).symm

theorem qrep_set_some (L : Nat) (q : Nat → Option Val) (i : Nat) (x : Val) :
    (qrep L q).set i x = qrep L (fun j => if j = i then some x else q j) := qrep_set L q i (some x)

theorem qrep_set_none (L : Nat) (q : Nat → Option Val) (i : Nat) :
    (qrep L q).set i Val.none = qrep L (fun j => if j = i then none else q j) := qrep_set L q i none

theorem hrep_set (L : Nat) (h : Nat → Bool) (i : Nat) (b : Bool) :
    (hrep L h).set i b = hrep L (fun j => if j = i then b else h j) := map_range_set h L i b

/-- `all(has_next[a:a+n])` -/
theorem hrep_slice_all {L a n : Nat} (h : Nat → Bool) (hb : a + n ≤ L) :
    (((hrep L h).take (a + n)).drop a).all id = allHas h a n := by
  rw [hrep, slice_range h hb, allHas_eq, sliceH, List.range'_eq_map_range, List.map_map]
  rfl

/-- `tuple(queue[a:a+n])` -/
theorem qrep_slice_tup {L a n : Nat} (q : Nat → Option Val) (hb : a + n ≤ L) :
    Val.tup (((qrep L q).take (a + n)).drop a) = mkTupleV (sliceQ q a n) := by
  rw [qrep, slice_range _ hb, mkTupleV, sliceQ, List.map_map, List.range'_eq_map_range, List.map_map]
  rfl

theorem qrep_grow (L k : Nat) (q : Nat → Option Val) (hout : ∀ j, L ≤ j → q j = none) :
    qrep L q ++ List.replicate k Val.none = qrep (L + k) q :=
  map_range_grow _ _ L k fun j hj => by rw [hout j hj]; rfl

theorem hrep_grow (L k : Nat) (h : Nat → Bool) (hout : ∀ j, L ≤ j → h j = false) :
    hrep L h ++ List.replicate k false = hrep (L + k) h := map_range_grow h false L k hout

theorem reset_loop (body : Nat → PUnit → HM Val (ForInStep PUnit)) (s : HSt Val) (L base n : Nat) (hb : base + n ≤ L)
    (hbody : ∀ a, base + a < L → ∀ q h, runS (body a PUnit.unit) { s with jq := qrep L q, jh := hrep L h }
      = (.ok (ForInStep.yield PUnit.unit),
          { s with jq := qrep L (fun j => if j = base + a then none else q j),
                   jh := hrep L (fun j => if j = base + a then false else h j) }))
    (q : Nat → Option Val) (h : Nat → Bool) :
    runS (forIn (List.range n) PUnit.unit body) { s with jq := qrep L q, jh := hrep L h }
      = (.ok PUnit.unit, { s with jq := qrep L (clearQ q base n), jh := hrep L (clearHas h base n) }) := by
  have := runM_forIn (List.range n) body (fun _ => PUnit.unit)
    (fun p => { s with jq := qrep L (clearQ q base p.length), jh := hrep L (clearHas h base p.length) }) rfl rfl
    (fun p a r hp => by
      obtain ⟨rfl, ha⟩ := range_prefix hp
      rw [List.length_append, List.length_singleton]
      exact hbody _ (Nat.lt_of_lt_of_le (Nat.add_lt_add_left ha _) hb) _ _)
  rwa [List.length_range] at this

/-- the reset loop of the join (`has_next` first, as after a zipped row); the state field by field, as it stands in a goal after
`obtain ⟨stores, …⟩ := s` -/
theorem reset_loop_hq (stores : Nat → Nat → Slot Val) (out outer : List (Ev Val)) (maps : Nat → Nat → Option (List (Val × Nat)))
    (nextIndex : Nat) (L base n : Nat) (hb : base + n ≤ L) (q : Nat → Option Val) (h : Nat → Bool) :
    runS (forIn (List.range n) PUnit.unit (fun index (_ : PUnit) => do
        hasSet (base + index) false
        queueSet (base + index) PyAlg.none
        pure (ForInStep.yield PUnit.unit))) { stores := stores, out := out, outer := outer, maps := maps, nextIndex := nextIndex, jq := qrep L q, jh := hrep L h }
      = (.ok PUnit.unit, { stores := stores, out := out, outer := outer, maps := maps, nextIndex := nextIndex, jq := qrep L (clearQ q base n),
                            jh := hrep L (clearHas h base n) }) :=
  reset_loop _ ⟨stores, out, outer, maps, nextIndex, [], []⟩ L base n hb (fun a ha q h => by
    simp only [run_simps, ↓reduceIte, qrep_length, hrep_length, ha, hrep_set, PyAlg.none, qrep_set_none]) q h

/-- the reset loop at the completion of a key (`queue` first) -/
theorem reset_loop_qh (stores : Nat → Nat → Slot Val) (out outer : List (Ev Val)) (maps : Nat → Nat → Option (List (Val × Nat)))
    (nextIndex : Nat) (L base n : Nat) (hb : base + n ≤ L) (q : Nat → Option Val) (h : Nat → Bool) :
    runS (forIn (List.range n) PUnit.unit (fun index (_ : PUnit) => do
        queueSet (base + index) PyAlg.none
        hasSet (base + index) false
        pure (ForInStep.yield PUnit.unit))) { stores := stores, out := out, outer := outer, maps := maps, nextIndex := nextIndex, jq := qrep L q, jh := hrep L h }
      = (.ok PUnit.unit, { stores := stores, out := out, outer := outer, maps := maps, nextIndex := nextIndex, jq := qrep L (clearQ q base n),
                            jh := hrep L (clearHas h base n) }) :=
  reset_loop _ ⟨stores, out, outer, maps, nextIndex, [], []⟩ L base n hb (fun a ha q h => by
    simp only [run_simps, ↓reduceIte, qrep_length, hrep_length, ha, hrep_set, PyAlg.none, qrep_set_none]) q h

/-- the growth loop of the join at the creation of a key by branch 0 (`grow_loop`, LinkC14.lean, is the store's) -/
theorem grow_loop_j (s : HSt Val) (l : List Nat) :
    runS (forIn l PUnit.unit (fun (_ : Nat) (_ : PUnit) => do
        queueAppend PyAlg.none
        hasAppend false
        pure (ForInStep.yield PUnit.unit))) s
      = (.ok PUnit.unit, { s with jq := s.jq ++ List.replicate l.length Val.none, jh := s.jh ++ List.replicate l.length false }) := by
  refine runM_forIn l _ (fun _ => PUnit.unit)
    (fun p => { s with jq := s.jq ++ List.replicate p.length Val.none, jh := s.jh ++ List.replicate p.length false })
    (s := s) rfl (by simp only [List.length_nil, List.replicate_zero, List.append_nil]) fun p a r _ => ?_
  simp only [run_simps, PyAlg.none, List.length_append, List.length_singleton, List.replicate_succ']

theorem key_base (k n i L : Nat) (hi : i < n) (hL : (k + 1) * n ≤ L) : k * n + i < L ∧ k * n + n ≤ L :=
  have h : k * n + n ≤ L := Nat.succ_mul k n ▸ hL
  ⟨Nat.lt_of_lt_of_le (Nat.add_lt_add_left hi _) h, h⟩

/-- the length of the two lists after an event -/
def joinLen (zc : Bool) (n i L : Nat) : Ev Val → Nat
  | .create k => if i = 0 ∧ zc = true then max L ((k.idx + 1) * n) else L
  | _ => L

theorem LinkH_join_create (zip combine : Bool) (n i L : Nat) (q : Nat → Option Val) (h : Nat → Bool) (s : HSt Val) (k : Key)
    (hq : s.jq = qrep L q) (hh : s.jh = hrep L h) (hout : ∀ j, L ≤ j → q j = none ∧ h j = false) :
    runS (Gen.tee_join_on_next zip combine n i (.create k)) s
      = (.ok (), { s with jq := qrep (joinLen (zip || combine) n i L (.create k)) q,
                          jh := hrep (joinLen (zip || combine) n i L (.create k)) h,
                          out := s.out ++ (if i = 0 then [Ev.create k] else []) }) := by
  obtain ⟨stores, out, outer, maps, nextIndex, jq, jh⟩ := s
  subst hq hh
  unfold Gen.tee_join_on_next
  by_cases hi : i = 0
  · by_cases hzc : (zip || combine) = true
    · -- `append_count`, computed on Python ints, and the length it leads to
      have hcount : (((k.idx : Int) + ((1 : Nat) : Int)) * (n : Int) - (L : Int)).toNat = (k.idx + 1) * n - L :=
        Int.toNat_sub ((k.idx + 1) * n) L
      have hmax : max L ((k.idx + 1) * n) = L + ((k.idx + 1) * n - L) := by rw [Nat.max_comm, ← Nat.sub_add_eq_max, Nat.add_comm]
      simp only [run_simps, ↓reduceIte, hi, hzc, decide_true, decide_eq_true_eq, joinLen, and_self, Int.ofNat_eq_natCast, Int.natCast_zero,
        qrep_length, ite_then_seq, forIn_range_toNat_guard, hcount, grow_loop_j, List.length_range, hmax,
        qrep_grow L _ q (fun j hj => (hout j hj).1), hrep_grow L _ h (fun j hj => (hout j hj).2)]
    · simp only [run_simps, ↓reduceIte, hi, hzc, decide_true, joinLen, and_false]
  · simp only [run_simps, ↓reduceIte, hi, decide_false, joinLen, false_and]

theorem LinkH_join_next (mode : Join) (n i L : Nat) (st : JoinSt Val) (s : HSt Val) (k : Key) (x : Val)
    (hq : s.jq = qrep L st.queue) (hh : s.jh = hrep L st.has) (hi : i < n)
    (hlive : mode ≠ .merge → (k.idx + 1) * n ≤ L) :
    runS (Gen.tee_join_on_next mode.flags.1 mode.flags.2 n i (.next k x)) s
      = (.ok (), { s with jq := qrep L (joinStep mode n mkTupleV id true st i (.next k x)).1.queue,
                          jh := hrep L (joinStep mode n mkTupleV id true st i (.next k x)).1.has,
                          out := s.out ++ (joinStep mode n mkTupleV id true st i (.next k x)).2 }) := by
  obtain ⟨stores, out, outer, maps, nextIndex, jq, jh⟩ := s
  subst hq hh
  unfold Gen.tee_join_on_next
  cases mode with
  | merge => simp only [run_simps, ↓reduceIte, Join.flags, joinStep, Bool.or_self]
  | zip =>
    obtain ⟨hidx, hb⟩ := key_base k.idx n i L hi (hlive (by simp))
    simp only [run_simps, ↓reduceIte, Join.flags, joinStep, Bool.true_or, qrep_length, hrep_length, hidx, qrep_set_some, hrep_set,
      hrep_slice_all _ hb, reset_loop_hq _ _ _ _ _ L (k.idx * n) n hb, PyAlg.tup, qrep_slice_tup _ hb]
    by_cases hall : allHas (fun j => if j = k.idx * n + i then true else st.has j) (k.idx * n) n = true <;>
      simp only [hall, if_true, Bool.false_eq_true, if_false, List.append_nil]
  | combine =>
    obtain ⟨hidx, hb⟩ := key_base k.idx n i L hi (hlive (by simp))
    simp only [run_simps, ↓reduceIte, Join.flags, joinStep, Bool.or_true, qrep_length, hrep_length, hidx, qrep_set_some, hrep_set,
      PyAlg.tup, qrep_slice_tup _ hb]

theorem LinkH_join_done (mode : Join) (n i L : Nat) (st : JoinSt Val) (s : HSt Val) (k : Key)
    (hq : s.jq = qrep L st.queue) (hh : s.jh = hrep L st.has)
    (hlive : mode ≠ .merge → (k.idx + 1) * n ≤ L) :
    runS (Gen.tee_join_on_next mode.flags.1 mode.flags.2 n i (.done k)) s
      = (.ok (), { s with jq := qrep L (joinStep mode n mkTupleV id true st i (.done k)).1.queue,
                          jh := hrep L (joinStep mode n mkTupleV id true st i (.done k)).1.has,
                          out := s.out ++ (joinStep mode n mkTupleV id true st i (.done k)).2 }) := by
  obtain ⟨stores, out, outer, maps, nextIndex, jq, jh⟩ := s
  subst hq hh
  unfold Gen.tee_join_on_next
  by_cases hi : i = n - 1
  · by_cases hm : mode = .merge
    · subst hm; simp only [run_simps, ↓reduceIte, Join.flags, joinStep, hi, decide_true, Bool.or_self]
    · have hb : k.idx * n + n ≤ L := Nat.succ_mul k.idx n ▸ hlive hm
      simp only [run_simps, ↓reduceIte, joinStep, hi, hm, Join.flags_or hm, decide_true, reset_loop_qh _ _ _ _ _ L (k.idx * n) n hb]
  · simp only [run_simps, ↓reduceIte, joinStep, hi, decide_false]

set_option linter.unusedVariables false in
/-- an error passes through and leaves the lists alone (`L` is not used) -/
theorem LinkH_join_other (mode : Join) (n i L : Nat) (st : JoinSt Val) (s : HSt Val) (ev : Ev Val)
    (hev : (∃ k e, ev = .err k e) ∨ (∃ e, ev = .fatal e)) :
    runS (Gen.tee_join_on_next mode.flags.1 mode.flags.2 n i ev) s
      = (.ok (), { s with out := s.out ++ (joinStep mode n mkTupleV id true st i ev).2 })
      ∧ (joinStep mode n mkTupleV id true st i ev).1 = st := by
  unfold Gen.tee_join_on_next
  rcases hev with ⟨k, e, rfl⟩ | ⟨e, rfl⟩ <;> simp only [run_simps, joinStep, and_self]

/-- **`on_next(i, x)` of the multiplexed join of `tee_map`**, generated from rxsci/operators/tee_map.py, is the model's
`joinStep` (with the repaired completion handler): for every join mode, branch `i < n`, event and model state, from lists of
any length `L` that hold the model state (`qrep`, `hrep`), provided the key of an item or a completion was created
(`(key[0]+1)·n ≤ L`: the lists were grown at its `OnCreateMux` on branch 0, see `joinLen`) -/
theorem LinkH_tee_join (mode : Join) (n i L : Nat) (st : JoinSt Val) (s : HSt Val) (ev : Ev Val)
    (hq : s.jq = qrep L st.queue) (hh : s.jh = hrep L st.has)
    (hout : ∀ j, L ≤ j → st.queue j = none ∧ st.has j = false) (hi : i < n)
    (hlive : ∀ k, (ev = .done k ∨ ∃ v, ev = .next k v) → mode ≠ .merge → (k.idx + 1) * n ≤ L) :
    runS (Gen.tee_join_on_next mode.flags.1 mode.flags.2 n i ev) s
      = (.ok (), { s with jq := qrep (joinLen (mode.flags.1 || mode.flags.2) n i L ev) (joinStep mode n mkTupleV id true st i ev).1.queue,
                          jh := hrep (joinLen (mode.flags.1 || mode.flags.2) n i L ev) (joinStep mode n mkTupleV id true st i ev).1.has,
                          out := s.out ++ (joinStep mode n mkTupleV id true st i ev).2 }) := by
  cases ev with
  | create k => rw [LinkH_join_create _ _ n i L st.queue st.has s k hq hh hout]; rfl
  | next k x => exact LinkH_join_next mode n i L st s k x hq hh hi (hlive k (Or.inr ⟨x, rfl⟩))
  | done k => exact LinkH_join_done mode n i L st s k hq hh (hlive k (Or.inl rfl))
  | err k e =>
    obtain ⟨h1, h2⟩ := LinkH_join_other mode n i L st s _ (.inl ⟨k, e, rfl⟩)
    rw [h1, h2, hq, hh]; rfl
  | fatal e =>
    obtain ⟨h1, h2⟩ := LinkH_join_other mode n i L st s _ (.inr ⟨e, rfl⟩)
    rw [h1, h2, hq, hh]; rfl

theorem joinStep_out (mode : Join) (n i L : Nat) (st : JoinSt Val) (ev : Ev Val) (hi : i < n)
    (hlive : ∀ k, (ev = .done k ∨ ∃ v, ev = .next k v) → mode ≠ .merge → (k.idx + 1) * n ≤ L) (j : Nat) (hj : L ≤ j) :
    (joinStep mode n mkTupleV id true st i ev).1.queue j = st.queue j ∧ (joinStep mode n mkTupleV id true st i ev).1.has j = st.has j := by
  by_cases hm : mode = .merge
  · subst hm; rw [joinStep_merge]; exact ⟨rfl, rfl⟩
  · -- the slice of the key of an item or a completion lies inside the lists
    have hout : ∀ k, (ev = .done k ∨ ∃ v, ev = .next k v) → Outside n k j := fun k hk h =>
      Nat.not_lt.mpr hj (Nat.lt_of_lt_of_le h.2 (Nat.succ_mul k.idx n ▸ hlive k hk hm))
    cases ev with
    | next k x => exact joinStep_frame mode n mkTupleV id true i k hi st (.item x) j (hout k (.inr ⟨x, rfl⟩))
    | done k =>
      by_cases h1 : i = n - 1
      · exact (joinStep_done_last mode n mkTupleV id i k h1 st).2.1 j (hout k (.inl rfl))
      · rw [joinStep_done_not_last mode n mkTupleV id true i k h1]; exact ⟨rfl, rfl⟩
    | _ => exact ⟨rfl, rfl⟩

/-- the lists never hold anything beyond their length: the hypothesis `hout` of `LinkH_tee_join` is an invariant, and after the
`OnCreateMux` of a key on branch 0 (zip / combine_latest) the lists cover the key: the hypothesis `hlive` for its later events -/
theorem join_inv (mode : Join) (n i L : Nat) (st : JoinSt Val) (ev : Ev Val)
    (hout : ∀ j, L ≤ j → st.queue j = none ∧ st.has j = false) (hi : i < n)
    (hlive : ∀ k, (ev = .done k ∨ ∃ v, ev = .next k v) → mode ≠ .merge → (k.idx + 1) * n ≤ L) :
    (∀ j, joinLen (mode.flags.1 || mode.flags.2) n i L ev ≤ j →
        (joinStep mode n mkTupleV id true st i ev).1.queue j = none ∧ (joinStep mode n mkTupleV id true st i ev).1.has j = false)
      ∧ L ≤ joinLen (mode.flags.1 || mode.flags.2) n i L ev
      ∧ (∀ k, ev = .create k → i = 0 → mode ≠ .merge → (k.idx + 1) * n ≤ joinLen (mode.flags.1 || mode.flags.2) n i L ev) := by
  have hL : L ≤ joinLen (mode.flags.1 || mode.flags.2) n i L ev := by
    cases ev with
    | create k => exact iteInduction (motive := (L ≤ ·)) (fun _ => Nat.le_max_left ..) fun _ => Nat.le_refl L
    | _ => exact Nat.le_refl _
  refine ⟨fun j hj => ?_, hL, ?_⟩
  · obtain ⟨h1, h2⟩ := joinStep_out mode n i L st ev hi hlive j (Nat.le_trans hL hj)
    rw [h1, h2]
    exact hout j (Nat.le_trans hL hj)
  · intro k hk h0 hm
    subst hk h0
    simp only [joinLen, Join.flags_or hm, and_self, if_true]
    exact Nat.le_max_right _ _

/-- the hypotheses of `LinkH_tee_join` are satisfiable with a half-filled row (two branches, key 0 created, branch 0 delivered) -/
example :
    let st : JoinSt Val := ⟨fun j => if j = 0 then some (.int 7) else none, fun j => j = 0⟩
    (∀ j, 2 ≤ j → st.queue j = none ∧ st.has j = false) ∧ (Key.idx [0] + 1) * 2 ≤ 2 ∧ st.has 0 = true := by
  refine ⟨?_, by simp [Key.idx], by simp⟩
  intro j hj
  have : j ≠ 0 := by omega
  simp [this]

end Rx
