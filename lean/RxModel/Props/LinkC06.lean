import RxGen.Handlers
import RxModel.Lemmas.HandlerSim
import RxModel.Lemmas.PyValLemmas
/-!
# C06 link theorem: the `on_next` handler of `split_mux`, generated from rxsci/data/split.py, IS the model's `splitStep`
-/
namespace Rx
open HM

/-- `split_mux`: the generated handler is the model's `splitStep` (inner events and the events sent around the inner pipeline),
for every predicate, on every event whose key has a live slot -/
theorem LinkH_split (p : Val → Val) (st : SpSt Val) (ev : Ev Val)
    (hlive : ∀ k, ((∃ v, ev = .next k v) ∨ ev = .done k ∨ (∃ e, ev = .err k e)) → st k.idx ≠ none) :
    runH2 (Gen.split_mux_on_next (fun v => .ok (p v)) ev) (repSt id st)
      = (.ok (), repSt id (splitStep p st ev).1, (splitStep p st ev).2.1, (splitStep p st ev).2.2.map OEv.toEv) := by
  refine runH2_of_stepOut ?_
  unfold Gen.split_mux_on_next
  cases ev with
  | create k => simp only [run_simps, splitStep, repSt_upd]
  | next k v =>
    cases h : st k.idx with
    | none => exact absurd h (hlive k (Or.inl ⟨v, rfl⟩))
    | some s =>
      cases s <;>
        simp only [run_simps, ↓reduceIte, splitStep, repSt_upd, repSt_apply, h, ik, eq_val, Bool.not_eq_true', decide_eq_false_iff_not, ne_eq]
  | done k | err k e =>
    cases h : st k.idx with
    | none => exact absurd h (hlive k (by simp))
    | some s => cases s <;> simp only [run_simps, ↓reduceIte, splitStep, repSt_apply, h, ik]
  | fatal e => simp only [run_simps, splitStep]

end Rx
