import RxModel.Lemmas.Nested
import RxModel.Lemmas.SimSeq
import RxModel.Lemmas.SimRoll
import RxModel.Lemmas.SimGroupBy
import RxModel.Derived
/-!
# C02 — state confinement: a key lifetime's output depends only on that lifetime's items

* `C02_impl_eq_ref`: on every well-formed trace the index-addressed implementation equals the keyed
  reference semantics (state addressed by the whole key — no aliasing possible by construction).
* `C02_other_keys`: in the reference semantics the events emitted for key `k` are a function of the
  events received for `k` alone.
* `C02_lifetime`: one lifetime `create k, items, done k` leaves no state behind — so a later
  lifetime served by the same slot starts fresh (successive windows of roll, segments of split,
  reused group indices).
* `C02_confinement`: the first two joined, for the implementation of a flat pipeline (what C01 uses).
* `C02_impl_eq_ref_nested`, `C02_confinement_nested`: the same for splitters around inner pipelines and
  `tee_map` around branches, to any depth, on clean traces; `C02_inner_lifetime`: an inner lifetime
  of a splitter starts fresh in its local slot.
* `C02_nested_builders`, `C02_clean_builders`: the splitters and `tee_map` of the catalogue meet `Pipe.Nested`
  (here the instances of `SplitSim` are supplied), and which of its per-key operators are clean.
-/
namespace Rx

def evKey {α} : Ev α → Option Key
  | .create k => some k
  | .next k _ => some k
  | .done k => some k
  | .err k _ => some k
  | .fatal _ => none

def ofKey {α} (k : Key) (e : Ev α) : Bool := evKey e == some k

theorem C02_impl_eq_ref (P : Pipe) (h : P.Supported) (t : List (Ev Val)) (ht : WF t) :
    P.mux.run t = (refLift P.loc).run t := impl_eq_ref P h t ht

theorem liftOut_key {β} (k : Key) (o : LOut β) : evKey (liftOut k o) = some k ∨ evKey (liftOut k o) = none :=
  match o with
  | .item _ => .inl rfl
  | .err _ => .inl rfl
  | .fatal _ => .inr rfl

theorem ofKey_true {α} {k : Key} {e : Ev α} (h : evKey e = some k) : ofKey k e = true := beq_iff_eq.mpr h

theorem ofKey_false {α} {k : Key} {e : Ev α} (h : evKey e ≠ some k) : ofKey k e = false :=
  beq_eq_false_iff_ne.mpr h

theorem filter_outs_other {β} {k k' : Key} (h : k ≠ k') (os : List (LOut β)) :
    (os.map (liftOut k')).filter (ofKey k) = [] := by
  refine List.filter_eq_nil_iff.mpr (List.forall_mem_map.mpr fun o _ hk => ?_)
  rcases liftOut_key k' o with ho | ho
  · exact h (Option.some.inj (ho.symm.trans (beq_iff_eq.mp hk))).symm
  · exact nomatch ho.symm.trans (beq_iff_eq.mp hk)

theorem filter_single_other {β} {k : Key} {e : Ev β} (h : evKey e ≠ some k) : [e].filter (ofKey k) = [] :=
  List.filter_cons_of_neg (by rw [ofKey_false h]; exact Bool.false_ne_true)

theorem refStep_other {α β} (L : LocalOp α β) (st : Key → Option L.σ) {e : Ev α} {k : Key}
    (h : evKey e ≠ some k) :
    (refStep L st e).1 k = st k ∧ (refStep L st e).2.filter (ofKey k) = [] := by
  cases e with
  | fatal x => exact ⟨rfl, rfl⟩
  | create k' => exact ⟨upd_of_ne _ (fun hh => h (congrArg some hh.symm)) _, filter_single_other h⟩
  | next k' x =>
    have hk : k ≠ k' := fun hh => h (congrArg some hh.symm)
    cases hs : st k' with
    | none => rw [refStep_next_none L hs]; exact ⟨rfl, rfl⟩
    | some s => rw [refStep_next_some L hs]; exact ⟨upd_of_ne _ hk _, filter_outs_other hk _⟩
  | err k' x =>
    have hk : k ≠ k' := fun hh => h (congrArg some hh.symm)
    cases hs : st k' with
    | none => rw [refStep_err_none L hs]; exact ⟨rfl, filter_single_other h⟩
    | some s => rw [refStep_err_some L hs]; exact ⟨upd_of_ne _ hk _, filter_outs_other hk _⟩
  | done k' =>
    have hk : k ≠ k' := fun hh => h (congrArg some hh.symm)
    cases hs : st k' with
    | none => rw [refStep_done_none L hs]; exact ⟨rfl, filter_single_other h⟩
    | some s =>
      rw [refStep_done_some L hs, List.filter_append, filter_outs_other hk]
      exact ⟨upd_of_ne _ hk _, filter_single_other h⟩

theorem refStep_congr {α β} (L : LocalOp α β) {st st' : Key → Option L.σ} {e : Ev α} {k : Key}
    (he : evKey e = some k) (h : st k = st' k) :
    (refStep L st e).1 k = (refStep L st' e).1 k ∧ (refStep L st e).2 = (refStep L st' e).2 := by
  have hu : ∀ v, upd st k v k = upd st' k v k := fun v => (upd_same ..).trans (upd_same ..).symm
  cases e with
  | fatal x => cases he
  | create k' => cases he; exact ⟨hu _, rfl⟩
  | next k' x | err k' x | done k' =>
    cases he
    simp only [refStep, ← h]
    cases st k with
    | none => exact ⟨h, rfl⟩
    | some s => exact ⟨hu _, rfl⟩

/-- **other keys do not matter**: what the reference semantics emits for key `k` over any trace is
what it emits over the sub-trace of `k`'s own events -/
theorem C02_other_keys {α β} (L : LocalOp α β) (k : Key) :
    ∀ (t : List (Ev α)) (st st' : Key → Option L.σ), st k = st' k →
      (runSteps (refStep L) st t).flatten.filter (ofKey k) =
        (runSteps (refStep L) st' (t.filter (ofKey k))).flatten.filter (ofKey k) := by
  intro t
  induction t with
  | nil => intros; rfl
  | cons e t ih =>
    intro st st' h
    by_cases he : evKey e = some k
    · have hf := ofKey_true he
      simp only [List.filter_cons, hf, if_true, runSteps, List.flatten_cons, List.filter_append]
      have hc := refStep_congr L he h
      rw [hc.2, ih _ _ hc.1]
    · have hf := ofKey_false he
      simp only [List.filter_cons, hf, runSteps, List.flatten_cons, List.filter_append]
      have ho := refStep_other L st he
      rw [ho.2, List.nil_append]
      exact ih _ _ (by rw [ho.1, h])

/-- **one lifetime**: `create k`, the items, `done k` — exactly the local meaning on these items,
chunk by chunk, and the slot of `k` is empty again afterwards whatever it held before -/
theorem C02_lifetime {α β} (L : LocalOp α β) (k : Key) (xs : List α) (st : Key → Option L.σ) :
    runSteps (refStep L) st ([.create k] ++ xs.map (.next k) ++ [.done k]) =
      [[.create k]] ++ (L.runL L.init xs).1.map (fun c => c.map (liftOut k)) ++
        [(L.runL L.init xs).2.map (liftOut k) ++ [.done k]] ∧
    finalState (refStep L) st ([.create k] ++ xs.map (.next k) ++ [.done k]) k = none := by
  have key : ∀ (xs : List α) (st : Key → Option L.σ) (s : L.σ), st k = some s →
      runSteps (refStep L) st (xs.map (.next k) ++ [.done k]) =
        (runRaw L.next L.fin s xs).1.map (fun c => c.map (liftOut k)) ++
          [(runRaw L.next L.fin s xs).2.map (liftOut k) ++ [.done k]] ∧
      finalState (refStep L) st (xs.map (.next k) ++ [.done k]) k = none := by
    intro xs
    induction xs with
    | nil =>
      intro st s hs
      simp only [List.map_nil, List.nil_append, runSteps, finalState, refStep_done_some L hs, runRaw, upd_same,
        and_self]
    | cons x xs ih =>
      intro st s hs
      obtain ⟨h1, h2⟩ := ih (upd st k (some (L.next s x).1)) (L.next s x).1 (upd_same ..)
      simp only [List.map_cons, List.cons_append, runSteps, finalState, refStep_next_some L hs, runRaw, h1, h2,
        and_self]
  obtain ⟨h1, h2⟩ := key xs (upd st k (some L.init)) L.init (upd_same ..)
  simp only [List.cons_append, List.nil_append, runSteps, finalState, refStep, LocalOp.runL, h1, h2, and_self]

/-- **confinement for the implementation**: over any well-formed trace, the events a supported
pipeline emits for key `k` are those the reference semantics emits over `k`'s own events -/
theorem C02_confinement (P : Pipe) (h : P.Supported) (t : List (Ev Val)) (ht : WF t) (k : Key) :
    (P.mux.run t).flatten.filter (ofKey k) =
      ((refLift P.loc).run (t.filter (ofKey k))).flatten.filter (ofKey k) := by
  rw [impl_eq_ref P h t ht]
  exact C02_other_keys P.loc k t _ _ rfl

/-- **impl = keyed reference for nested pipelines** (`Pipe.Nested`, Lemmas/Nested.lean), on every
clean well-formed trace: any number of keys, any interleaving, sparse and reused slot indices; inner
keys of groups, windows, segments and sessions are derived and reused by the implementation as the
code does (`group_by` counter, `roll` ring slots, `(key[0], key)` of split/time_split) -/
theorem C02_impl_eq_ref_nested (P : Pipe) (h : P.Nested) (t : List (Ev Val)) (ht : WF t) (hc : CleanTr t) :
    P.mux.run t = (refLift P.loc).run t := impl_eq_ref_nested P h t ht hc

/-- **confinement for nested pipelines**: over any clean well-formed trace, the events a nested
pipeline emits for key `k` are those the keyed reference semantics emits over `k`'s own events -/
theorem C02_confinement_nested (P : Pipe) (h : P.Nested) (t : List (Ev Val)) (ht : WF t) (hc : CleanTr t) (k : Key) :
    (P.mux.run t).flatten.filter (ofKey k) =
      ((refLift P.loc).run (t.filter (ofKey k))).flatten.filter (ofKey k) := by
  rw [impl_eq_ref_nested P h t ht hc]
  exact C02_other_keys P.loc k t _ _ rfl

/-- **inner lifetimes start fresh** (windows of roll, segments of split/time_split, groups): in the
local meaning of `wrap`, the inner lifetime opened in local slot `j` emits the inner pipeline's
local meaning on exactly the items delivered between its `opn` and its `cls`, whatever the slot held
before, and leaves the slot empty -/
theorem C02_inner_lifetime {α β} (L : LocalOp α β) (j : Nat) (xs : List α) (st : Nat → Option L.σ) :
    runGroup (cmdStep L) st ([Cmd.opn j] ++ xs.map (Cmd.itm j) ++ [Cmd.cls j]) =
      (fun i => if i = j then none else st i, L.outL xs) := by
  have key : ∀ (xs : List α) (st : Nat → Option L.σ) (s : L.σ), st j = some s →
      runGroup (cmdStep L) st (xs.map (Cmd.itm j) ++ [Cmd.cls j]) =
        (upd st j none, (runRaw L.next L.fin s xs).1.flatten ++ (runRaw L.next L.fin s xs).2) := by
    intro xs
    induction xs with
    | nil =>
      intro st s hs
      simp only [List.map_nil, List.nil_append, runGroup, cmdStep_cls_some L hs, runRaw, List.flatten_nil,
        List.append_nil]
    | cons x xs ih =>
      intro st s hs
      simp only [List.map_cons, List.cons_append, runGroup, cmdStep_itm_some L hs, ih _ _ (upd_same ..),
        upd_upd, runRaw, List.flatten_cons, List.append_assoc]
  have := key xs (upd st j (some L.init)) L.init (upd_same ..)
  rw [upd_upd] at this
  simp only [List.cons_append, List.nil_append, runGroup, cmdStep, this]
  rfl

/-- **the catalogue is nested**: `group_by`, `roll` (both implementations: `rollSp w s` is
`_roll_count` when `w = s`, the ring otherwise), `split` and `time_split` around a nested inner
pipeline, and `tee_map` around nested branches, are nested stages -/
theorem C02_nested_builders :
    (∀ f inner, inner.Nested → (D.groupBy f inner).Nested) ∧
    (∀ w s inner, 0 < w → 0 < s → inner.Nested → (D.roll w s inner).Nested) ∧
    (∀ f inner, inner.Nested → (D.split f inner).Nested) ∧
    (∀ c inner, inner.Nested → (D.timeSplit c inner).Nested) ∧
    (∀ mode p bs, p.Nested → bs.Nested → (Stage.tee mode (.cons p bs)).Nested) :=
  ⟨fun f _ h => ⟨⟨groupBySim f⟩, h⟩, fun w s _ hw hs h => ⟨⟨rollSim w s hs hw⟩, h⟩,
   fun f _ h => ⟨⟨splitSim f⟩, h⟩, fun c _ h => ⟨⟨timeSplitSim c⟩, h⟩,
   fun _ _ _ hp hb => ⟨⟨hp, hb⟩, Nat.succ_pos _⟩⟩

/-- which primitive stages are clean (never turn an item into an error): everything whose user
function is total -/
theorem C02_clean_builders :
    (∀ f : D.F1, (∀ x, ∃ y, f x = .ok y) → (D.map f).Clean) ∧
    (∀ p : D.F1, (∀ x, ∃ y, p x = .ok y) → (D.filter p).Clean) ∧
    (∀ (g : D.F2) seed r term, (∀ a x, ∃ y, g a x = .ok y) → (D.scan g seed r term).Clean) ∧
    D.first.Clean ∧ D.last.Clean ∧ (∀ n, (D.take n).Clean) ∧ (∀ n, (D.lag n).Clean) ∧
    (∀ n v, (D.padStart n v).Clean) ∧ (∀ n v, (D.padEnd n v).Clean) ∧ (∀ vs, (D.startWith vs).Clean) ∧
    D.flatMap.Clean := by
  refine ⟨fun f hf => ?_, fun p hp => ?_, fun g seed r term hg => ?_, ?_, ?_, fun n => ?_, fun n => ?_,
    fun n v => ?_, fun n v => ?_, fun vs => ?_, ?_⟩
  · exact cleanOp_of_all (fun _ x => by obtain ⟨y, hy⟩ := hf x; simp only [mapOp, hy]; rfl) (fun _ => rfl)
  · exact cleanOp_of_all (fun _ x => by obtain ⟨y, hy⟩ := hp x; simp only [filterOp, hy]; split <;> rfl)
      (fun _ => rfl)
  · exact cleanOp_of_all
      (fun s x => by obtain ⟨y, hy⟩ := hg (s.getD seed) x; simp only [scanOp, scanNext, hy]; cases r <;> rfl)
      (fun _ => by cases term <;> cases r <;> rfl)
  · exact cleanOp_of_all (fun s _ => by cases s <;> rfl) (fun _ => rfl)
  · exact cleanOp_of_all (fun _ _ => rfl) (fun s => by cases s <;> rfl)
  · exact cleanOp_of_all (fun _ _ => by simp only [takeOp]; split <;> rfl) (fun _ => rfl)
  · unfold D.lag; split <;> exact cleanOp_of_all (fun _ _ => rfl) (fun _ => rfl)
  · exact cleanOp_of_all (fun s _ => by cases s <;> simp [padStartOp, LOut.isItem]) (fun _ => rfl)
  · exact cleanOp_of_all (fun _ _ => rfl) (fun s => by cases s <;> simp [padEndOp, LOut.isItem])
  · exact cleanOp_of_all (fun s _ => by cases s <;> simp [startWithOp, LOut.isItem]) (fun _ => rfl)
  · exact cleanOp_of_all (fun _ _ => by simp [flatMapOp, LOut.isItem]) (fun _ => rfl)

/-- non-vacuity of `Pipe.Nested`: `group_by(roll(3,2)(tee_map(last, first), zip))`, nested three deep -/
example : (Pipe.ofList [D.groupBy (fun v => v)
    (Pipe.ofList [D.roll 3 2 (Pipe.ofList [Stage.tee .zip (.cons (Pipe.ofList [D.last]) (.cons (Pipe.ofList [D.first]) .nil))])])]).Nested := by
  refine ⟨C02_nested_builders.1 _ _ ⟨C02_nested_builders.2.1 3 2 _ (Nat.succ_pos _) (Nat.succ_pos _) ⟨?_, trivial, Or.inl trivial⟩, trivial, Or.inl trivial⟩, trivial, Or.inl trivial⟩
  exact C02_nested_builders.2.2.2.2 _ _ _ ⟨trivial, trivial, Or.inl trivial⟩ ⟨⟨trivial, trivial, Or.inl trivial⟩, trivial⟩

/-- a trace with a reused slot index that is well-formed and clean, as the nested theorems ask -/
example : WF ([.create [3, 0], .create [1, 0], .next [3, 0] (.int 1), .next [1, 0] (.int 5), .done [3, 0],
    .create [3, 0], .done [1, 0], .done [3, 0]] : List (Ev Val)) ∧
    CleanTr ([.create [3, 0], .create [1, 0], .next [3, 0] (.int 1), .next [1, 0] (.int 5), .done [3, 0],
    .create [3, 0], .done [1, 0], .done [3, 0]] : List (Ev Val)) :=
  ⟨by unfold WF; decide, by unfold NoErr; decide, by unfold NoFatal; decide⟩

end Rx
