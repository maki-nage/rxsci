import RxModel.Lemmas.Obs
/-!
# C06 — split cuts each key's stream into maximal runs of equal predicate value

About `splitLS p`, the splitter of one parent key lifetime written as `split_mux.on_next` (the
predicate value stored when the segment was opened, compared with `!=`); the observer
`LSplit.windows` collects what each segment received, in completion order.
-/
namespace Rx

/-- maximal runs of equal `p`-value -/
def runsBy {α κ : Type} [DecidableEq κ] (p : α → κ) : List α → List (List α)
  | [] => []
  | x :: xs =>
    match runsBy p xs with
    | [] => [[x]]
    | [] :: rs => [x] :: rs
    | (y :: r) :: rs => if p x = p y then (x :: y :: r) :: rs else [x] :: (y :: r) :: rs

theorem runsBy_cons_head {α κ : Type} [DecidableEq κ] (p : α → κ) (x : α) (xs : List α) :
    ∃ r rs, runsBy p (x :: xs) = (x :: r) :: rs := by
  rw [runsBy]
  split
  · exact ⟨[], [], rfl⟩
  · exact ⟨[], _, rfl⟩
  · split
    · exact ⟨_, _, rfl⟩
    · exact ⟨[], _, rfl⟩

theorem runsBy_cons_cons {α κ : Type} [DecidableEq κ] (p : α → κ) (x y : α) (l : List α) :
    ∃ r rs, runsBy p (y :: l) = (y :: r) :: rs ∧
      runsBy p (x :: y :: l) = if p x = p y then (x :: y :: r) :: rs else [x] :: (y :: r) :: rs := by
  obtain ⟨r, rs, h⟩ := runsBy_cons_head p y l
  refine ⟨r, rs, h, ?_⟩
  rw [runsBy, h]

theorem runsBy_ne_nil_const {α κ : Type} [DecidableEq κ] (p : α → κ) (xs : List α) :
    ∀ r ∈ runsBy p xs, r ≠ [] ∧ ∀ a ∈ r, ∀ b ∈ r, p a = p b := by
  have single : ∀ x : α, [x] ≠ [] ∧ ∀ a ∈ [x], ∀ b ∈ [x], p a = p b := fun x =>
    ⟨List.cons_ne_nil _ _, fun a ha b hb => by rw [List.mem_singleton.mp ha, List.mem_singleton.mp hb]⟩
  induction xs with
  | nil => nofun
  | cons x xs ih =>
    cases xs with
    | nil => exact List.forall_mem_singleton.mpr (single x)
    | cons y l =>
      obtain ⟨r, rs, h, h'⟩ := runsBy_cons_cons p x y l
      rw [h, List.forall_mem_cons] at ih
      rw [h']
      split
      · next hxy =>
        have hall : ∀ c ∈ x :: y :: r, p c = p y :=
          List.forall_mem_cons.mpr ⟨hxy, fun c hc => ih.1.2 c hc y (List.mem_cons_self ..)⟩
        exact List.forall_mem_cons.mpr
          ⟨⟨List.cons_ne_nil _ _, fun a ha b hb => (hall a ha).trans (hall b hb).symm⟩, ih.2⟩
      · exact List.forall_mem_cons.mpr ⟨single x, List.forall_mem_cons.mpr ih⟩

/-- adjacent runs have different predicate values.  No theorem uses it: that the runs are maximal is
stated as `C06_runs_maximal`. -/
def AdjDiff {α κ} (p : α → κ) : List (List α) → Prop
  | [] => True
  | [_] => True
  | r1 :: r2 :: rs => (∀ a ∈ r1.getLast?, ∀ b ∈ r2.head?, p a ≠ p b) ∧ AdjDiff p (r2 :: rs)

theorem runsBy_block {α κ : Type} [DecidableEq κ] (p : α → κ) (c : κ) (cur : List α) (hne : cur ≠ [])
    (hall : ∀ y ∈ cur, p y = c) (rest : List α) (hx : ∀ x ∈ rest.head?, p x ≠ c) :
    runsBy p (cur ++ rest) = cur :: runsBy p rest := by
  induction cur with
  | nil => exact absurd rfl hne
  | cons a cur ih =>
    have ha : p a = c := hall a (List.mem_cons_self ..)
    cases cur with
    | nil =>
      cases rest with
      | nil => rfl
      | cons x xs =>
        obtain ⟨r, rs, h⟩ := runsBy_cons_head p x xs
        show runsBy p (a :: x :: xs) = _
        rw [runsBy, h]
        exact if_neg fun e : p a = p x => hx x rfl (e.symm.trans ha)
    | cons b cur =>
      have := ih (List.cons_ne_nil _ _) fun y hy => hall y (List.mem_cons_of_mem _ hy)
      show runsBy p (a :: ((b :: cur) ++ rest)) = _
      rw [runsBy, this]
      exact if_pos (ha.trans (hall b (List.mem_cons_of_mem _ (List.mem_cons_self ..))).symm)

/-- invariant of `split` after the items `xs` of one key: the observer's open segment `cur` is a
non-empty block of the stored predicate value, and whatever items `ys` are still to come, the runs of
the whole are the completed segments followed by the runs of `cur ++ ys` -/
def SInv {α κ : Type} [DecidableEq κ] (p : α → κ) (xs : List α) : Option κ → Obs α → Prop
  | none, ob => xs = [] ∧ ob.closed = []
  | some c, ob => xs ≠ [] ∧ ∃ cur, cur ≠ [] ∧ (∀ y ∈ cur, p y = c) ∧ ob.opn 0 = some cur ∧
      ∀ ys, runsBy p (xs ++ ys) = ob.closed ++ runsBy p (cur ++ ys)

theorem SInv.step {α κ : Type} [DecidableEq κ] (p : α → κ) (xs : List α) (st : Option κ) (ob : Obs α) (x : α)
    (h : SInv p xs st ob) :
    SInv p (xs ++ [x]) ((splitLS p).next st x).1 (obsRun ob ((splitLS p).next st x).2) := by
  have hne : xs ++ [x] ≠ [] := List.append_ne_nil_of_right_ne_nil _ (List.cons_ne_nil _ _)
  match st, h with
  | none, ⟨hxs, hc0⟩ =>
    refine ⟨hne, [x], List.cons_ne_nil _ _, fun y hy => by rw [List.mem_singleton.mp hy], rfl, fun ys => ?_⟩
    show _ = ob.closed ++ _
    rw [hxs, hc0]; rfl
  | some c, ⟨_, cur, hcur, hall, hop, hruns⟩ =>
    by_cases hx : p x = c
    · rw [show (splitLS p).next (some c) x = (some c, [.itm 0 x]) from if_neg (not_not_intro hx)]
      refine ⟨hne, cur ++ [x], List.append_ne_nil_of_left_ne_nil hcur _, fun y hy => ?_, ?_, fun ys => ?_⟩
      · rcases List.mem_append.mp hy with h | h
        · exact hall y h
        · rw [List.mem_singleton.mp h, hx]
      · show (ob.opn 0).map (· ++ [x]) = _
        rw [hop]; rfl
      · rw [List.append_assoc, List.append_assoc, hruns]; rfl
    · rw [show (splitLS p).next (some c) x = (some (p x), [.cls 0, .opn 0, .itm 0 x]) from if_pos hx]
      refine ⟨hne, [x], List.cons_ne_nil _ _, fun y hy => by rw [List.mem_singleton.mp hy], rfl, fun ys => ?_⟩
      show _ = ob.closed ++ [(ob.opn 0).getD []] ++ _
      rw [List.append_assoc, hruns, List.singleton_append,
        runsBy_block p c cur hcur hall (x :: ys) fun _ h => Option.some.inj h ▸ hx, hop, List.append_assoc]; rfl

/-- **C06**: the segments of one key (completed while items arrive, then the last one at the key's
completion) are exactly the maximal runs of equal predicate value, in order; a key that received
no item produces no segment; the last segment is the only one completed at the key's completion -/
theorem C06_segments {α κ : Type} [DecidableEq κ] (p : α → κ) (xs : List α) :
    ((splitLS p).windows xs).1 ++ ((splitLS p).windows xs).2 = runsBy p xs ∧
    ((splitLS p).windows xs).2.length = (if xs = [] then 0 else 1) := by
  obtain ⟨st, ob, h, hw⟩ := (splitLS p).windows_inv (SInv p) ⟨rfl, rfl⟩ (SInv.step p) xs
  rw [hw]
  match st, h with
  | none, ⟨hxs, hc0⟩ => rw [hxs, hc0]; exact ⟨rfl, rfl⟩
  | some c, ⟨hxs, cur, hcur, hall, hop, hruns⟩ =>
    have hfin : (obsRun ⟨ob.opn, []⟩ ((splitLS p).fin (some c))).closed = [cur] := by
      show [] ++ [(ob.opn 0).getD []] = _
      rw [hop]; rfl
    rw [hfin, if_neg hxs]
    refine ⟨?_, rfl⟩
    have := hruns []
    rw [List.append_nil, runsBy_block p c cur hcur hall [] nofun] at this
    exact this.symm

/-- the runs partition the input: concatenated they give back every item once, in order -/
theorem C06_runs_partition {α κ : Type} [DecidableEq κ] (p : α → κ) (xs : List α) :
    (runsBy p xs).flatten = xs ∧ (∀ r ∈ runsBy p xs, r ≠ []) ∧
    (∀ r ∈ runsBy p xs, ∀ a ∈ r, ∀ b ∈ r, p a = p b) :=
  -- the runs are the segments of a splitter that hands every item to one segment
  ⟨(C06_segments p xs).1 ▸ (splitLS_seq p).partition xs,
    fun r hr => (runsBy_ne_nil_const p xs r hr).1, fun r hr => (runsBy_ne_nil_const p xs r hr).2⟩

/-- a new run starts exactly when the predicate value changes: a block of equal predicate value
followed by an item of a different value is cut right there -/
theorem C06_runs_maximal {α κ : Type} [DecidableEq κ] (p : α → κ) (c : κ) (cur : List α) (hne : cur ≠ [])
    (hall : ∀ y ∈ cur, p y = c) :
    runsBy p cur = [cur] ∧ ∀ x xs, p x ≠ c → runsBy p (cur ++ x :: xs) = cur :: runsBy p (x :: xs) :=
  ⟨(congrArg (runsBy p) (List.append_nil cur).symm).trans (runsBy_block p c cur hne hall [] nofun),
    fun x xs hx => runsBy_block p c cur hne hall (x :: xs) fun _ h => Option.some.inj h ▸ hx⟩

/-- two segments completed by a change of `n / 3`, the last one at the key's completion -/
example : (splitLS (fun n : Nat => n / 3)).windows [0, 1, 2, 3, 4, 6] = ([[0, 1, 2], [3, 4]], [[6]]) := by decide
example : runsBy (fun n : Nat => n % 2) [1, 3, 2, 4, 5] = [[1, 3], [2, 4], [5]] := by decide

end Rx
