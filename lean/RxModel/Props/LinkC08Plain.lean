import RxGen.Handlers
import RxModel.Pipeline
import RxModel.Lemmas.PyHandlerLemmas
/-!
# C08 / C01 link theorems for the join of `tee_map` on an ORDINARY observable (`_process_many.subscribe`)

`harness/pygen.py` (`PlainJoinTranslator`) translates the closures `on_next(i, x)` and `done(i)` of rxsci/operators/tee_map.py into
the monad `PM` (the three Python lists `queue`, `has_next`, `is_done` are the fields `jq`, `jh`, `jd` of `PSt`). The theorems say
that the generated closures are the model's `pJoinNext` (the join the plain `tee_map` of the model is built from, `Plain.lean`) and
the all-branches-done completion rule.
-/
namespace Rx
open PM

/-- the Python list `queue`: `None` where the model has no pending item -/
def jrep (q : List (Option Val)) : List Val := q.map (·.getD Val.none)

def louts : List (LOut Val) → List Val
  | [] => []
  | .item v :: r => v :: louts r
  | _ :: r => louts r

theorem length_foldl_set {β} (b : β) (l : List Nat) (h : List β) : (l.foldl (fun h a => h.set a b) h).length = h.length := by
  induction l generalizing h with
  | nil => rfl
  | cons a l ih => rw [List.foldl_cons, ih, List.length_set]

/-- `for index in range(n): has_next[index] = False` -/
theorem reset_loop_plain (l : List Nat) (s : PSt Val) (hl : ∀ a ∈ l, a < s.jh.length) :
    runP (forIn l PUnit.unit (fun index (_ : PUnit) => do
        hasSet index false
        pure (ForInStep.yield PUnit.unit))) s
      = (.ok PUnit.unit, { s with jh := l.foldl (fun h a => h.set a false) s.jh }) := by
  refine runM_forIn l _ (fun _ => PUnit.unit) (fun p => { s with jh := p.foldl (fun h a => h.set a false) s.jh }) (s := s) rfl rfl
    fun p a r hp => ?_
  have ha : a < s.jh.length := hl a (by rw [hp]; exact List.mem_append_right _ List.mem_cons_self)
  simp only [run_simps, ↓reduceIte, length_foldl_set, ha, List.foldl_append, List.foldl_cons, List.foldl_nil]

theorem foldl_set_range (h : List Bool) : ∀ n, n ≤ h.length →
    (List.range n).foldl (fun h a => h.set a false) h = List.replicate n false ++ h.drop n
  | 0, _ => rfl
  | n + 1, hn => by
    rw [List.range_succ, List.foldl_append, foldl_set_range h n (Nat.le_of_succ_le hn), List.foldl_cons, List.foldl_nil,
      List.set_append_right _ _ (by rw [List.length_replicate]; exact Nat.le_refl n), List.length_replicate, Nat.sub_self,
      List.drop_eq_getElem_cons hn, List.set_cons_zero, List.replicate_succ', List.append_assoc]
    rfl

theorem foldl_set_all (h : List Bool) :
    (List.range h.length).foldl (fun h a => h.set a false) h = h.map (fun _ => false) := by
  rw [foldl_set_range h _ (Nat.le_refl _), List.drop_length, List.append_nil, List.map_const']

theorem mkTupleV_jrep (q : List (Option Val)) : mkTupleV q = Val.tup (jrep q) := rfl

theorem jrep_set (q : List (Option Val)) (i : Nat) (x : Val) : (jrep q).set i x = jrep (q.set i (some x)) := by
  simp [jrep, List.map_set]

/-- **the plain join of `tee_map`** (`_process_many.subscribe.on_next`, generated from rxsci/operators/tee_map.py) is the model's
`pJoinNext` with the tuple constructor of the pipelines: for every mode, every number of branches, every state of the two lists -/
theorem LinkP_tee_next (mode : Join) (n i : Nat) (st : PJoinSt Val) (x : Val) (s : PSt Val)
    (hq : st.queue.length = n) (hh : st.has.length = n) (hi : i < n)
    (hsq : s.jq = jrep st.queue) (hsh : s.jh = st.has) :
    runP (Gen.tee_plain_on_next n mode.flags.1 mode.flags.2 i x) s
      = (.ok (), { s with out := s.out ++ louts (pJoinNext mode mkTupleV id st i x).2,
                          jq := jrep (pJoinNext mode mkTupleV id st i x).1.queue,
                          jh := (pJoinNext mode mkTupleV id st i x).1.has }) := by
  obtain ⟨vars, out, completed, failed, jq, jh, jd⟩ := s
  subst hsq hsh
  have hiq : i < (jrep st.queue).length := by rw [jrep, List.length_map, hq]; exact hi
  have hih : i < st.has.length := by rw [hh]; exact hi
  unfold Gen.tee_plain_on_next
  cases mode with
  | merge => simp only [run_simps, ↓reduceIte, Join.flags, pJoinNext, louts]
  | combine =>
    simp only [run_simps, ↓reduceIte, Join.flags, pJoinNext, louts, hiq, hih, jrep_set, mkTupleV_jrep, PyAlg.tup]
  | zip =>
    have hfold : (List.range n).foldl (fun h a => h.set a false) (st.has.set i true) = (st.has.set i true).map fun _ => false := by
      have := foldl_set_all (st.has.set i true); rwa [List.length_set, hh] at this
    simp only [run_simps, ↓reduceIte, Join.flags, pJoinNext, hiq, hih, jrep_set,
      reset_loop_plain (List.range n) ⟨vars, out, completed, failed, jrep (st.queue.set i (some x)), st.has.set i true, jd⟩
        (fun a ha => by rw [List.length_set, hh]; exact List.mem_range.mp ha),
      hfold, mkTupleV_jrep, PyAlg.tup]
    by_cases hall : (st.has.set i true).all id = true <;>
      simp only [hall, ↓reduceIte, Bool.false_eq_true, louts, List.append_nil]

/-- **`done(i)` of the plain join**: branch `i` is marked done, and the join completes exactly when every branch is — whatever
the join mode -/
theorem LinkP_tee_done (n i : Nat) (zip combine : Bool) (s : PSt Val) (hi : i < s.jd.length) :
    runP (Gen.tee_plain_done (V := Val) n zip combine i) s
      = (.ok (), { s with jd := s.jd.set i true, completed := if (s.jd.set i true).all id then true else s.completed }) := by
  unfold Gen.tee_plain_done
  by_cases h : (s.jd.set i true).all id = true <;> simp only [run_simps, ↓reduceIte, hi, h]

/-- non-vacuity: two branches, zip, branch 1 arrives while branch 0 is pending -/
example : louts (pJoinNext .zip mkTupleV id ⟨[some (.int 1), none], [true, false]⟩ 1 (.int 2)).2 = [Val.tup [.int 1, .int 2]] :=
  rfl

end Rx
