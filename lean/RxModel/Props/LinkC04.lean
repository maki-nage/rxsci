import RxGen.Handlers
import RxModel.Lemmas.HandlerSim
import RxModel.Lemmas.Split
import RxModel.Lemmas.PyValLemmas
/-!
# C04 link theorem: the `on_next` handler of `group_by_mux`, generated from rxsci/operators/group_by.py, IS the model's `gbStep`

The generated code works on the mapper store of RxModel/PyHandler.lean (`get_map`, `add_map` handing out the running index,
`iterate_map`, the no-op `del_map`, `add_key`/`del_key` on the mapper state); `gb_nodup` (Lemmas/Split) is the invariant (pairwise distinct
dict keys) under which every key of the dict finds its own index in the flush loop.
-/
namespace Rx

open HM

/-- the flush loop of group_by at completion / error of the parent: one inner event per mapped key, in insertion order -/
theorem gb_loop (mkEv : Key → Ev Val) (k : Key) (m : List (Val × Nat)) :
    ∀ (l : List (Val × Nat)), (∀ p ∈ l, (m.find? (fun q => PyAlg.eq q.1 p.1)).map (·.2) = some p.2) →
    ∀ (s : HSt Val), s.maps 0 k.idx = some m → ∀ (r0 : Option Nat),
    ∃ r', runS (forIn (l.map (·.1)) r0 (fun k_1 (__s : Option Nat) => do
            let index ← getMap 0 k k_1
            let __do_lift ← unmarkN index
            emit (mkEv (__do_lift :: k))
            delMap 0 k k_1
            pure (ForInStep.yield index))) s
      = (.ok r', { s with out := s.out ++ l.map (fun p => mkEv (p.2 :: k)) }) := by
  intro l
  induction l with
  | nil => intro _ s _ r0; exact ⟨r0, by simp only [List.map_nil, List.forIn_nil, runS_pure, List.append_nil]⟩
  | cons p l ih =>
    intro hl s hs r0
    obtain ⟨r', hr'⟩ := ih (fun q hq => hl q (List.mem_cons_of_mem _ hq)) { s with out := s.out ++ [mkEv (p.2 :: k)] } hs (some p.2)
    refine ⟨r', ?_⟩
    simp only [List.forIn_cons, run_simps, hs, hl p (List.mem_cons_self ..), hr']

/-- the model's mapper state (one dict per parent slot) as the mapper store of the code -/
def repMaps (mp : Nat → Option (List (Val × Nat))) : Nat → Nat → Option (List (Val × Nat)) :=
  fun sid i => if sid = 0 then mp i else none

theorem repMaps_apply (mp : Nat → Option (List (Val × Nat))) (i : Nat) : repMaps mp 0 i = mp i := rfl

theorem repMaps_upd (mp : Nat → Option (List (Val × Nat))) (i : Nat) (v : Option (List (Val × Nat))) :
    repMaps (upd mp i v) = updMap (repMaps mp) 0 i v := by
  funext sid j
  by_cases h1 : sid = 0 <;> by_cases h2 : j = i <;> simp [repMaps, updMap, upd, h1, h2]

theorem find_eq_gbLookup (m : List (Val × Nat)) (g : Val) :
    (m.find? (fun p => PyAlg.eq p.1 g)).map (·.2) = gbLookup m g := by
  simp only [gbLookup, eq_val]

theorem find_of_mem_nodup (m : List (Val × Nat)) (hnd : (m.map (·.1)).Nodup) :
    ∀ p ∈ m, (m.find? (fun q => PyAlg.eq q.1 p.1)).map (·.2) = some p.2 :=
  fun p hp => (find_eq_gbLookup m p.1).trans (gbLookup_of_mem hnd hp)

/-- `group_by_mux`: the generated handler (mapper store: lookup, `add_map` with the running index, flush loop over
`iterate_map` at completion / error of the parent) is the model's `gbStep`, for every key function, on every event whose
parent key has a live dict with pairwise distinct keys (an invariant of `gbStep`: `gb_nodup`) -/
theorem LinkH_group_by (f : Val → Val) (st : GbSt Val) (ev : Ev Val)
    (hlive : ∀ k, ((∃ v, ev = .next k v) ∨ ev = .done k ∨ (∃ e, ev = .err k e)) → st.maps k.idx ≠ none)
    (hnd : ∀ i m, st.maps i = some m → (m.map (·.1)).Nodup) :
    runHM (Gen.group_by_mux_on_next (fun v => .ok (f v)) ev) (repMaps st.maps) st.next
      = (.ok (), repMaps (gbStep f st ev).1.maps, (gbStep f st ev).1.next, (gbStep f st ev).2.1, (gbStep f st ev).2.2.map OEv.toEv) := by
  refine runHM_of_stepOut (S := GbSt Val) (rep := fun s => repMaps s.maps) (next := fun s => s.next) ?_
  unfold Gen.group_by_mux_on_next
  cases ev with
  | create k => simp only [run_simps, gbStep, repMaps_upd]
  | next k v =>
    cases h : st.maps k.idx with
    | none => exact absurd h (hlive k (Or.inl ⟨v, rfl⟩))
    | some m =>
      simp only [run_simps, gbStep, repMaps_apply, h, find_eq_gbLookup]
      cases gbLookup m (f v) <;> simp only [run_simps, ↓reduceIte, repMaps_upd]
  | done k =>
    cases h : st.maps k.idx with
    | none => exact absurd h (hlive k (Or.inr (Or.inl rfl)))
    | some m =>
      obtain ⟨r', hr'⟩ := gb_loop Ev.done k m m (find_of_mem_nodup m (hnd _ _ h))
        { stores := fun _ _ => none, out := [], maps := repMaps st.maps, nextIndex := st.next } h none
      simp only [run_simps, gbStep, repMaps_apply, repMaps_upd, h, hr']
  | err k e =>
    cases h : st.maps k.idx with
    | none => exact absurd h (hlive k (Or.inr (Or.inr ⟨e, rfl⟩)))
    | some m =>
      obtain ⟨r', hr'⟩ := gb_loop (fun ks => Ev.err ks e) k m m (find_of_mem_nodup m (hnd _ _ h))
        { stores := fun _ _ => none, out := [], maps := repMaps st.maps, nextIndex := st.next } h none
      simp only [run_simps, gbStep, repMaps_apply, repMaps_upd, h, hr']
  | fatal e => simp only [run_simps, gbStep]

end Rx
