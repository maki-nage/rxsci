import RxGen.Store
import RxModel.Props.C14
import RxModel.Lemmas.PyStoreLemmas
/-!
# C14 link theorems: the methods of `MemoryStore` (rxsci/state/memory_store.py), generated from the source into the monad
`OM` (RxModel/PyStore.lean: the instance attributes `values` / `state` / `keys` as lists, typed-array coercion, IndexError),
ARE the operations of the L0 model `MemStore` that the theorems of C14 are about, for every store whose arrays are parallel
(`MemStore.Inv`, an invariant: `C14_inv_run`) and, for `add_key`, every typed (non-mapper) state.  Then the dict side of mapper
states (monad `MM`), and around the store `StoreManager` (monad `SM`), `StateTopology.create_state` and `MemoryStore.iterate`.
-/
namespace Rx
open OM

/-- the object of a `MemStore` (typed states: the dict side `maps` / `nextIndex` of mapper states is not part of it) -/
def objOf (s : MemStore) : PyStoreSt := ⟨s.dtype, s.default, s.values, s.state, s.keys⟩

/-- `o` put back into `s`, the other direction of `objOf`; the theorems state results through `objOf` alone and do not use it -/
def withObj (s : MemStore) (o : PyStoreSt) : MemStore :=
  { s with values := o.values, state := o.state, keys := o.keys }

theorem objOf_state (s : MemStore) : (objOf s).state = s.state := rfl
theorem objOf_values (s : MemStore) : (objOf s).values = s.values := rfl
theorem objOf_keys (s : MemStore) : (objOf s).keys = s.keys := rfl
theorem objOf_dtype (s : MemStore) : (objOf s).dtype = s.dtype := rfl
theorem objOf_default (s : MemStore) : (objOf s).default = s.default := rfl

/-- `MemoryStore.set` as generated from the source is the model's `MemStore.set` (arrays parallel) -/
theorem LinkS_set (s : MemStore) (k : Key) (v : Val) (h : s.Inv) :
    OM.run (Gen.MemoryStore_set k v) (objOf s)
      = (match (s.set k v).2 with | .exc e => .error e | _ => .ok (), objOf (s.set k v).1) := by
  obtain ⟨h1, h2, _⟩ := h
  simp only [Gen.MemoryStore_set, MemStore.set, run_simps, objOf, h1]
  by_cases hi : k.idx < s.state.length
  · cases s.dtype.coerce v <;> simp only [hi, h2, run_simps]
  · simp only [hi, run_simps]

theorem LinkS_del_key (s : MemStore) (k : Key) (h : s.Inv) :
    OM.run (Gen.MemoryStore_del_key k) (objOf s)
      = (match (s.delKey k).2 with | .exc e => .error e | _ => .ok (), objOf (s.delKey k).1) := by
  obtain ⟨h1, h2, _⟩ := h
  simp only [Gen.MemoryStore_del_key, MemStore.delKey, run_simps, objOf, DType.coerce_zero]
  by_cases hi : k.idx < s.state.length
  · simp only [hi, h1, h2, run_simps]
  · simp only [hi, run_simps]

/-- the result of `get`: a value, or the marker object STATE_NOTSET -/
def getRes : SRes → Except Err (Option Val)
  | .val v => .ok (some v)
  | .notset => .ok none
  | .exc e => .error e
  | _ => .error "not-a-get-result"

theorem LinkS_get (s : MemStore) (k : Key) (h : s.Inv) :
    OM.run (Gen.MemoryStore_get k) (objOf s) = (getRes (s.get k), objOf s) := by
  simp only [Gen.MemoryStore_get, MemStore.get, run_simps, objOf, DType.read_eq, decide_eq_true_eq]
  cases hs : s.state[k.idx]? with
  | none => rfl
  | some m =>
    have hi : k.idx < s.values.length := h.1 ▸ (List.getElem?_eq_some_iff.mp hs).1
    have hv : s.values[k.idx]? = some s.values[k.idx] := List.getElem?_eq_getElem hi
    cases m <;> simp only [run_simps, hv, getRes, List.getD_eq_getElem?_getD, reduceCtorEq]
    all_goals exact (apply_ite (fun v => (Except.ok (some v), objOf s)) ..).symm

def boolRes : SRes → Except Err Bool
  | .bool b => .ok b
  | .exc e => .error e
  | _ => .error "not-a-bool-result"

theorem LinkS_is_set (s : MemStore) (k : Key) :
    OM.run (Gen.MemoryStore_is_set k) (objOf s) = (boolRes (s.isSet k), objOf s) := by
  simp only [Gen.MemoryStore_is_set, MemStore.isSet, run_simps, objOf]
  rcases s.state[k.idx]? with _ | _ | _ | _ <;> rfl

theorem LinkS_is_cleared (s : MemStore) (k : Key) :
    OM.run (Gen.MemoryStore_is_cleared k) (objOf s) = (boolRes (s.isCleared k), objOf s) := by
  simp only [Gen.MemoryStore_is_cleared, MemStore.isCleared, run_simps, objOf]
  rcases s.state[k.idx]? with _ | _ | _ | _ <;> rfl

/-- the growth loop of `add_key`: one `append` to each container per pass -/
theorem grow_loop (l : List Nat) (o : PyStoreSt) :
    OM.run (forIn l PUnit.unit (fun (_ : Nat) (_ : PUnit) => do
        OM.valuesAppend (Val.int 0)
        OM.stateAppend Marker.cleared
        OM.keysAppend none
        pure (ForInStep.yield PUnit.unit))) o
      = (.ok PUnit.unit, { o with values := o.values ++ List.replicate l.length o.dtype.zero,
                                  state := o.state ++ List.replicate l.length Marker.cleared,
                                  keys := o.keys ++ List.replicate l.length none }) := by
  refine runM_forIn l _ (fun _ => PUnit.unit)
    (fun p => { o with values := o.values ++ List.replicate p.length o.dtype.zero,
                       state := o.state ++ List.replicate p.length Marker.cleared,
                       keys := o.keys ++ List.replicate p.length none })
    (s := o) rfl (by simp only [List.length_nil, List.replicate_zero, List.append_nil]) fun p a r _ => ?_
  simp only [run_simps, DType.coerce_zero, List.length_append, List.length_singleton, List.replicate_succ']

/-- `add_key` up to the test of `is_mapper` (growth, then marker and key of the slot) leads to the object of `s.fresh k`, where
`MemStore.addKey_eq` has the model continue -/
theorem add_key_fresh {α} (s : MemStore) (k : Key) (h : s.Inv) (rest : OM α) :
    OM.run (do
      let t1 ← OM.lenState
      let append_count : Int := (((Int.ofNat k.idx) + (1 : Int)) - (Int.ofNat t1))
      if append_count > (0 : Int) then
        for _ in List.range (Int.toNat append_count) do
          OM.valuesAppend (Val.int 0)
          OM.stateAppend Marker.cleared
          OM.keysAppend none
      OM.stateSet k.idx Marker.notset
      OM.keysSet k.idx (some k)
      rest) (objOf s) = OM.run rest (objOf (s.fresh k)) := by
  have hgrow : (Int.ofNat k.idx + 1 - Int.ofNat s.state.length).toNat = k.idx + 1 - s.state.length :=
    Int.toNat_sub (k.idx + 1) s.state.length
  have hlen : k.idx < s.state.length + (k.idx + 1 - s.state.length) := Nat.sub_le_iff_le_add'.mp (Nat.le_refl _)
  -- `grow_loop` speaks of `OM.run`, which `OM.run_eq` has rewritten to `runO` by the time `simp` meets the loop
  have hloop : ∀ l o, runO (forIn l PUnit.unit _) o = _ := grow_loop
  simp only [run_simps, ite_then_seq, forIn_range_toNat_guard, hloop, objOf, List.length_range, hgrow, List.length_append,
    List.length_replicate, h.2.1, hlen]
  rfl

theorem LinkS_add_key (s : MemStore) (k : Key) (h : s.Inv) (hm : s.dtype ≠ .mapper) :
    OM.run (Gen.MemoryStore_add_key k) (objOf s)
      = (match (s.addKey k).2 with | .exc e => .error e | _ => .ok (), objOf (s.addKey k).1) := by
  refine (add_key_fresh s k h _).trans ?_
  rw [MemStore.addKey_eq, if_neg hm]
  simp only [run_simps, objOf_dtype, objOf_default, (s.fresh_upd k).dtype, (s.fresh_upd k).default, hm, decide_false]
  cases s.default with
  | none => rfl
  | some d => exact LinkS_set (s.fresh k) k d ((s.fresh_upd k).inv h)

/-- the hypotheses are satisfiable: a fresh typed store with a default value -/
example : (MemStore.new .int (some (.int 0))).Inv ∧ (MemStore.new .int (some (.int 0))).dtype ≠ .mapper :=
  ⟨C14_inv_new _ _, by simp [MemStore.new]⟩

/-! ## the dict side of mapper states (`group_by`'s key → group index maps) -/

/-- the dict side of the L0 model `s` as the object `ms`: same counter, no freed indices (the code never frees one), and every
slot that holds a dict holds the model's association list -/
def MapRep (s : MemStore) (ms : MapSt) : Prop :=
  ms.nextIndex = s.nextIndex ∧ ms.freeSlots = [] ∧ ms.dicts.length = s.maps.length ∧
    ∀ (i : Nat) (m : List (Val × Nat)), ms.dicts[i]? = some (some m) → s.maps[i]? = some m

theorem LinkS_add_map (s : MemStore) (ms : MapSt) (k : Key) (g : Val) (m : List (Val × Nat))
    (hrep : MapRep s ms) (hd : ms.dicts[k.idx]? = some (some m)) :
    MM.run (Gen.MemoryStore_add_map k g) ms
        = (.ok s.nextIndex, { dicts := ms.dicts.set k.idx (some (dictPut m g s.nextIndex)), nextIndex := s.nextIndex + 1, freeSlots := [] })
      ∧ (s.addMap k g).2 = .idx s.nextIndex
      ∧ MapRep (s.addMap k g).1
          { dicts := ms.dicts.set k.idx (some (dictPut m g s.nextIndex)), nextIndex := s.nextIndex + 1, freeSlots := [] } := by
  obtain ⟨h1, h2, h3, h4⟩ := hrep
  have hm : s.maps[k.idx]? = some m := h4 _ _ hd
  simp only [MemStore.addMap, hm, true_and]
  refine ⟨?_, rfl, rfl, ?_, fun i m2 => ?_⟩
  · simp only [Gen.MemoryStore_add_map, Gen.new_index, run_simps, h1, h2, hd, List.length_nil, gt_iff_lt, Nat.lt_irrefl]
  · simp only [List.length_set, h3]
  · by_cases hik : k.idx = i
    · subst hik
      rw [List.getElem?_set_self (List.getElem?_eq_some_iff.mp hd).1, List.getElem?_set_self (List.getElem?_eq_some_iff.mp hm).1]
      exact Option.some.inj
    · rw [List.getElem?_set_ne hik, List.getElem?_set_ne hik]
      exact h4 i m2

theorem LinkS_get_map (s : MemStore) (ms : MapSt) (k : Key) (g : Val) (m : List (Val × Nat))
    (hrep : MapRep s ms) (hd : ms.dicts[k.idx]? = some (some m)) :
    MM.run (Gen.MemoryStore_get_map k g) ms
      = (match s.getMap k g with | .idx i => .ok (some i) | .notset => .ok none | _ => .error "IndexError", ms) := by
  simp only [Gen.MemoryStore_get_map, MemStore.getMap, run_simps, hd, hrep.2.2.2 _ _ hd, ← List.isSome_find?]
  cases m.find? (fun p => p.1 = g) <;> rfl

theorem LinkS_iterate_map (s : MemStore) (ms : MapSt) (k : Key) (m : List (Val × Nat))
    (hrep : MapRep s ms) (hd : ms.dicts[k.idx]? = some (some m)) :
    MM.run (Gen.MemoryStore_iterate_map k) ms = (.ok (m.map (·.1)), ms) ∧ s.iterateMap k = .keysOf (m.map (·.1)) := by
  constructor
  · simp only [Gen.MemoryStore_iterate_map, run_simps, hd]
  · simp only [MemStore.iterateMap, hrep.2.2.2 _ _ hd]

/-- **`MemoryStore.del_map`**, generated from rxsci/state/memory_store.py, deletes nothing: whatever the state of the mapper and
whatever it returns or raises, the dicts, the next index and the free slots are what they were (`HM.delMap` in the handler monad is
this fact) -/
theorem LinkS_del_map (ms : MapSt) (k : Key) (g : Val) : (MM.run (Gen.MemoryStore_del_map k g) ms).2 = ms := by
  simp only [Gen.MemoryStore_del_map, run_simps, ← List.isSome_find?]
  rcases hd : ms.dicts[k.idx]? with _ | _ | m
  · rfl
  · rfl
  · simp only [run_simps, hd]
    cases m.find? (fun p => p.1 = g) <;> rfl

/-- **`StoreManager.set_state / get_state / add_key / del_key`** (rxsci/state/store.py, generated: the manager asks its single
`Store`, which calls the method of the same name on `self.states[state]`): the call IS the `MemoryStore` method — generated from
memory_store.py and linked to the L0 model by `LinkS_*` — on the object of that state id, with the same key and value, and the
object of every other state id is left as it was -/
theorem LinkS_manager (i : Nat) (tbl : List PyStoreSt) (st : PyStoreSt) (h : tbl[i]? = some st) (k : Key) (v : Val) :
    SM.run (Gen.StoreManager_set_state i k v) tbl
        = ((OM.run (Gen.MemoryStore_set k v) st).1, tbl.set i (OM.run (Gen.MemoryStore_set k v) st).2)
    ∧ SM.run (Gen.StoreManager_get_state i k) tbl
        = ((OM.run (Gen.MemoryStore_get k) st).1, tbl.set i (OM.run (Gen.MemoryStore_get k) st).2)
    ∧ SM.run (Gen.StoreManager_add_key i k) tbl
        = ((OM.run (Gen.MemoryStore_add_key k) st).1, tbl.set i (OM.run (Gen.MemoryStore_add_key k) st).2)
    ∧ SM.run (Gen.StoreManager_del_key i k) tbl
        = ((OM.run (Gen.MemoryStore_del_key k) st).1, tbl.set i (OM.run (Gen.MemoryStore_del_key k) st).2) := by
  refine ⟨?_, ?_, ?_, ?_⟩ <;>
    simp only [Gen.StoreManager_set_state, Gen.Store_set, Gen.StoreManager_get_state, Gen.Store_get, Gen.StoreManager_add_key,
      Gen.Store_add_key, Gen.StoreManager_del_key, Gen.Store_del_key, run_simps, h]

/-- the frame of the manager's operations: the objects of the other state ids are untouched, whatever the call returns or raises,
also when the state id does not exist -/
theorem LinkS_manager_frame (i j : Nat) (hj : j ≠ i) (tbl : List PyStoreSt) (k : Key) (v : Val) :
    (SM.run (Gen.StoreManager_set_state i k v) tbl).2[j]? = tbl[j]?
    ∧ (SM.run (Gen.StoreManager_get_state i k) tbl).2[j]? = tbl[j]?
    ∧ (SM.run (Gen.StoreManager_add_key i k) tbl).2[j]? = tbl[j]?
    ∧ (SM.run (Gen.StoreManager_del_key i k) tbl).2[j]? = tbl[j]? :=
  ⟨SM.onState_frame i j hj _ tbl, SM.onState_frame i j hj _ tbl, SM.onState_frame i j hj _ tbl, SM.onState_frame i j hj _ tbl⟩

/-- the operators of a pipeline probed one after the other: each asks for a state, the ids handed out in order -/
def probeAll {δ : Type} : List δ → List δ → List δ × List Nat
  | states, [] => (states, [])
  | states, d :: r =>
    let a := Gen.StateTopology_create_state states d
    let b := probeAll a.1 r
    (b.1, a.2 :: b.2)

theorem probeAll_spec {δ : Type} (states ds : List δ) :
    probeAll states ds = (states ++ ds, List.range' states.length ds.length) := by
  induction ds generalizing states with
  | nil => simp only [probeAll, List.append_nil, List.length_nil, List.range'_zero]
  | cons d r ih =>
    simp only [probeAll, Gen.StateTopology_create_state, ih, List.append_assoc, List.singleton_append, List.length_append,
      List.length_cons, List.length_nil, Nat.add_sub_cancel, List.range'_succ]

/-- **`StateTopology.create_state`** (generated from rxsci/state/state_topology.py): the operators of a pipeline that ask for
states during the topology probe get the ids `0, 1, 2, …` in that order — pairwise different — and the definition stored under the
id of the k-th request is the k-th requested one (its data type and default value are what `Store.__init__` builds the k-th
`MemoryStore` from) -/
theorem LinkS_topology {δ : Type} (ds : List δ) :
    (probeAll [] ds).2 = List.range ds.length ∧ (probeAll [] ds).2.Nodup
      ∧ ∀ k, k < ds.length → (probeAll [] ds).1[(probeAll [] ds).2[k]?.getD 0]? = ds[k]? := by
  simp only [probeAll_spec, List.nil_append, List.length_nil, ← List.range_eq_range']
  refine ⟨trivial, List.nodup_range, fun k hk => ?_⟩
  rw [List.getElem?_range hk, Option.getD_some]

example : (probeAll [] ["scan-0", "mapper-0", "scan-1"]).2 = [0, 1, 2] := by decide

/-- one slot of `iterate()` -/
def iterSlot (s : MemStore) (i : Nat) : Option (Option Key × Val × Bool) :=
  match s.state[i]? with
  | some Marker.cleared => none
  | some m => some (s.keys.getD i none, s.values.getD i (.int 0), decide (m = Marker.set))
  | none => none

theorem iter_loop (s : MemStore) (h : s.Inv) : ∀ (l : List Nat) (acc : List (Option Key × Val × Bool)), (∀ i ∈ l, i < s.state.length) →
    runO (forIn l acc (fun index (r : List (Option Key × Val × Bool)) => do
        let t2 ← OM.stateGet index
        if t2 ≠ Marker.cleared then
          let t3 ← OM.keysGet index
          let t4 ← OM.valuesGet index
          let t5 ← OM.stateGet index
          pure (ForInStep.yield (r ++ [(t3, t4, decide (t5 = Marker.set))]))
        else pure (ForInStep.yield r))) (objOf s)
      = (.ok (acc ++ l.filterMap (iterSlot s)), objOf s) := by
  intro l acc hl
  refine runM_forIn l _ (fun p => acc ++ p.filterMap (iterSlot s)) (fun _ => objOf s)
    (by rw [List.filterMap_nil, List.append_nil]) rfl fun p i r hp => ?_
  have hi : i < s.state.length := hl i (hp ▸ List.mem_append_right _ List.mem_cons_self)
  have hs : s.state[i]? = some s.state[i] := List.getElem?_eq_getElem hi
  have hv : s.values[i]? = some (s.values[i]'(h.1 ▸ hi)) := List.getElem?_eq_getElem _
  have hk : s.keys[i]? = some (s.keys[i]'(h.2.1 ▸ hi)) := List.getElem?_eq_getElem _
  simp only [run_simps, objOf_state, objOf_values, objOf_keys, hs, hv, hk, List.filterMap_append, List.filterMap_cons,
    List.filterMap_nil, iterSlot, List.getD_eq_getElem?_getD]
  generalize s.state[i] = m
  cases m <;> simp only [ne_eq, reduceCtorEq, not_true_eq_false, not_false_eq_true, run_simps]

/-- **`MemoryStore.iterate`** (a generator, generated from rxsci/state/memory_store.py as the list of what it yields) is the
model's `MemStore.iterate`: (key, raw value, is-set) of every slot whose marker is not CLEARED, in index order -/
theorem LinkS_iterate (s : MemStore) (h : s.Inv) :
    OM.run Gen.MemoryStore_iterate (objOf s) = (match s.iterate with | .dump l => .ok l | _ => .error "not-a-dump", objOf s) := by
  have hl := iter_loop s h (List.range s.keys.length) [] fun i hi => h.2.1 ▸ List.mem_range.mp hi
  simp only [Gen.MemoryStore_iterate, run_simps, objOf_keys, hl, MemStore.iterate]
  rfl
end Rx
