import RxModel.Lemmas.PlainDerived
import RxModel.Props.C02
/-!
# C01 — multiplexing is transparent: keyed execution equals per-group plain execution

Mux side: by `impl_eq_ref` and `C02_confinement`, what a flat pipeline `P` emits for one key lifetime
with items `xs`, wherever that lifetime sits in a well-formed trace, is `P.loc.outL xs`.
Plain side: `PlainOp.out` (RxPY built-ins and rxsci's own plain operators, modelled).

`AgreeT Pl L` (Lemmas/PlainSim.lean) is the compositional form of "plain = keyed": same items in
the same order whenever the plain run does not raise (the property's precondition), and a prefix
when it does.  It is proved for every dual-mode primitive (`C01_stage_*`), it is closed under
sequential composition (`AgreeT.comp` — early completion of `take`/`first`, which stops the
upstream on the plain path only, included), hence it holds for every flat pipeline of them
(`C01_pipeline`), to any length.  `C01_transparent` joins both sides.
-/
namespace Rx

theorem refLift_lifetime {α β} (L : LocalOp α β) (k : Key) (xs : List α) :
    ((refLift L).run ([.create k] ++ xs.map (.next k) ++ [.done k])).flatten =
      [.create k] ++ (L.outL xs).map (liftOut k) ++ [.done k] := by
  show (runSteps (refStep L) (fun _ => none) _).flatten = _
  rw [(C02_lifetime L k xs (fun _ => none)).1]
  simp [LocalOp.outL, List.flatten_append, List.map_append, List.map_flatten]

/-- **mux side**: on a single lifetime of key `k` the keyed reference of a pipeline emits the
pipeline's local meaning on the items, between `create` and `done`.  That the index-addressed
implementation emits the same for `k`, wherever the lifetime sits in a well-formed trace, is
`C02_confinement`. -/
theorem C01_mux_lifetime (P : Pipe) (k : Key) (xs : List Val) :
    ((refLift P.loc).run ([.create k] ++ xs.map (.next k) ++ [.done k])).flatten =
      [.create k] ++ (P.loc.outL xs).map (liftOut k) ++ [.done k] :=
  refLift_lifetime P.loc k xs

/-- map / starmap / identity / do_action / clip / fill_none (all `map` instances) -/
theorem C01_stage_map {α β} (f : α → Except Err β) : AgreeT (pMap f) (mapOp f) := primSim_agreeT _ _ (mapSim f)
/-- filter: the plain path applies Python truthiness, the keyed path must apply the same test -/
theorem C01_stage_filter {α γ} (p : α → Except Err γ) (tr : γ → Bool) : AgreeT (pFilter p tr) (filterOp p tr) :=
  primSim_agreeT _ _ (filterSim p tr)
theorem C01_stage_flat_map {α β} (el : α → List β) : AgreeT (pFlatMap el) (flatMapOp el) :=
  primSim_agreeT _ _ (flatMapSim el)
/-- scan with any accumulator, seed, reduce flag and terminator (count, sum, min, max, mean, variance, … are instances) -/
theorem C01_stage_scan {α γ} (g : γ → α → Except Err γ) (seed : γ) (r : Bool) (term : Option (γ → γ)) :
    AgreeT (pScan g seed r term) (scanOp g seed r term) := primSim_agreeT _ _ (scanSim g seed r term)
/-- first: RxPY raises on an empty sequence (precondition), completes after the first item; `first_mux` goes silent -/
theorem C01_stage_first {α} : AgreeT (pFirst (α := α)) firstOp := primSim_agreeT _ _ firstSim
theorem C01_stage_last {α} : AgreeT (pLast (α := α)) lastOp := primSim_agreeT _ _ lastSim
/-- take(n) for every n, `take(0)` (= `rx.empty()`) included -/
theorem C01_stage_take {α} (n : Nat) : AgreeT (pTake (α := α) n) (takeOp n) := primSim_agreeT _ _ (takeSim n)
theorem C01_stage_assert {α} (p : α → Except Err Bool) (en : Err) : AgreeT (pAssert p en) (assertOp p en) :=
  primSim_agreeT _ _ (assertSim p en)
theorem C01_stage_assert1 {α} (p : α → α → Bool) (en : Err) : AgreeT (pAssert1 p en) (assert1Op p en) :=
  primSim_agreeT _ _ (assert1Sim p en)
/-- to_list: RxPY `to_list` vs `scan(append, reduce=True)` -/
theorem C01_stage_to_list : AgreeT (pToList Val.lst) (scanOp toListAcc (Val.lst []) true none) :=
  primSim_agreeT _ _ toListSim

mutual
/-- a stage with both implementations whose agreement is proved -/
def Stage.Dual : Stage → Prop
  | .prim L (some Pl) => StartOK Pl ∧ AgreeT Pl L
  | .prim _ none => False
  | .wrap _ _ _ => False
  | .tee _ _ => False
def Pipe.Dual : Pipe → Prop
  | .nil => True
  | .cons s rest => s.Dual ∧ rest.Dual
end

theorem Pipe.dual_supported : (P : Pipe) → P.Dual → P.Supported
  | .nil, _ => trivial
  | .cons (.prim _ _) rest, h => ⟨trivial, rest.dual_supported h.2⟩
  | .cons (.wrap _ _ _) _, h => h.1.elim
  | .cons (.tee _ _) _, h => h.1.elim

theorem Pipe.dual_agree : (P : Pipe) → P.Dual → ∃ Pl, P.plain = some Pl ∧ AgreeT Pl P.loc
  | .nil, _ => ⟨idPlain, rfl, primSim_agreeT _ _ idSim⟩
  | .cons (.prim L (some Pl)) rest, h => by
    obtain ⟨Pr, hp, ha⟩ := rest.dual_agree h.2
    refine ⟨compPlain Pl Pr, ?_, h.1.2.comp ha⟩
    simp [Pipe.plain, Stage.plain, hp]
  | .cons (.prim _ none) _, h => h.1.elim
  | .cons (.wrap _ _ _) _, h => h.1.elim
  | .cons (.tee _ _) _, h => h.1.elim

/-- **C01 for arbitrary compositions** (flat pipelines of dual-mode operators, any length): the plain
interpretation exists and, whenever the plain run does not raise, delivers exactly the items, in the
same order, that the keyed (local) interpretation of the same pipeline delivers for a group with
those items -/
theorem C01_pipeline (P : Pipe) (hd : P.Dual) :
    ∃ Pl, P.plain = some Pl ∧ ∀ xs, noFatal (Pl.out xs) = true → items (Pl.out xs) = items (P.loc.outL xs) := by
  obtain ⟨Pl, hp, ha⟩ := P.dual_agree hd
  exact ⟨Pl, hp, fun xs h => agreeT_out Pl P.loc ha xs (noFatal_iff.mp h)⟩

/-- items delivered for key `k` in a mux event stream -/
def muxItems {β} (k : Key) (evs : List (Ev β)) : List β :=
  evs.filterMap (fun e => match e with | .next k' v => if k' = k then some v else none | _ => none)

theorem muxItems_append {β} (k : Key) (a b : List (Ev β)) : muxItems k (a ++ b) = muxItems k a ++ muxItems k b :=
  List.filterMap_append

theorem muxItems_filter {β} (k : Key) (evs : List (Ev β)) : muxItems k (evs.filter (ofKey k)) = muxItems k evs := by
  rw [muxItems, List.filterMap_filter]
  congr 1
  funext e
  cases e <;> simp [ofKey, evKey]

theorem muxItems_liftOut {β} (k : Key) (os : List (LOut β)) : muxItems k (os.map (liftOut k)) = items os := by
  rw [muxItems, List.filterMap_map, items]
  congr 1
  funext o
  cases o
  · exact if_pos rfl
  · rfl
  · rfl

theorem muxItems_of_confined {α β} {Q : MuxOp α β} {L : LocalOp α β} {t : List (Ev α)} {k : Key} {xs : List α}
    (hc : (Q.run t).flatten.filter (ofKey k) = ((refLift L).run (t.filter (ofKey k))).flatten.filter (ofKey k))
    (hk : t.filter (ofKey k) = [.create k] ++ xs.map (.next k) ++ [.done k]) :
    muxItems k (Q.run t).flatten = items (L.outL xs) := by
  rw [← muxItems_filter, hc, hk, muxItems_filter, refLift_lifetime, muxItems_append, muxItems_append,
    muxItems_liftOut]
  exact List.append_nil _

/-- **C01, both sides joined**: let `P` be any flat pipeline of dual-mode operators and `t` any
well-formed multiplexed input (any number of groups, any interleaving, sparse or reused slot
indices) in which group `k` has the items `xs`.  If the plain pipeline run on `xs` alone does not
raise, then the items the multiplexed pipeline (index-addressed store implementation) delivers for
`k` are exactly the items the plain pipeline delivers, in the same order. -/
theorem C01_transparent (P : Pipe) (hd : P.Dual) (t : List (Ev Val)) (ht : WF t) (k : Key) (xs : List Val)
    (hk : t.filter (ofKey k) = [.create k] ++ xs.map (.next k) ++ [.done k]) :
    ∃ Pl, P.plain = some Pl ∧
      (noFatal (Pl.out xs) = true → muxItems k (P.mux.run t).flatten = items (Pl.out xs)) := by
  obtain ⟨Pl, hp, hag⟩ := C01_pipeline P hd
  exact ⟨Pl, hp, fun hnf =>
    (muxItems_of_confined (C02_confinement P (P.dual_supported hd) t ht k) hk).trans (hag xs hnf).symm⟩

/-- **keyed side for nested pipelines**: let `P` be any nested pipeline (splitters around inner
pipelines, `tee_map` around branches, any depth) and `t` any clean well-formed multiplexed input in
which group `k` has the items `xs`.  The items the index-addressed implementation delivers for `k`
are exactly the items of the pipeline's local meaning on `xs` alone — the other groups, their
interleaving and the reuse of slot indices do not matter. -/
theorem C01_keyed_nested (P : Pipe) (h : P.Nested) (t : List (Ev Val)) (ht : WF t) (hc : CleanTr t) (k : Key) (xs : List Val)
    (hk : t.filter (ofKey k) = [.create k] ++ xs.map (.next k) ++ [.done k]) :
    muxItems k (P.mux.run t).flatten = items (P.loc.outL xs) :=
  muxItems_of_confined (C02_confinement_nested P h t ht hc k) hk

theorem dual_of_sim {L : LocalOp Val Val} {Pl : PlainOp Val Val} (S : PrimSim Pl L) : (Stage.prim L (some Pl)).Dual :=
  ⟨primSim_startOK _ _ S, primSim_agreeT _ _ S⟩

theorem Pipe.dual_ofList : (l : List Stage) → (∀ s ∈ l, s.Dual) → (Pipe.ofList l).Dual
  | [], _ => trivial
  | s :: r, h => ⟨h s List.mem_cons_self, Pipe.dual_ofList r (fun x hx => h x (List.mem_cons_of_mem _ hx))⟩

theorem Pipe.dual_append : (p q : Pipe) → p.Dual → q.Dual → (p.append q).Dual
  | .nil, _, _, hq => hq
  | .cons _ r, q, hp, hq => ⟨hp.1, Pipe.dual_append r q hp.2 hq⟩

/-- **closure**: pipelines assembled from dual stages by listing and appending are dual, so
`C01_pipeline` / `C01_transparent` apply to flat compositions of any length, however assembled -/
theorem C01_dual_closed :
    (∀ l : List Stage, (∀ s ∈ l, s.Dual) → (Pipe.ofList l).Dual) ∧
    (∀ p q : Pipe, p.Dual → q.Dual → (p.append q).Dual) :=
  ⟨Pipe.dual_ofList, Pipe.dual_append⟩

theorem dual_map (f : D.F1) : (D.map f).Dual := dual_of_sim (mapSim f)
theorem dual_filter (p : D.F1) : (D.filter p).Dual := dual_of_sim (filterSim p Val.truthy)
theorem dual_scan (g : D.F2) (seed : Val) (r : Bool) (term : Option (Val → Val)) : (D.scan g seed r term).Dual :=
  dual_of_sim (scanSim g seed r term)

/-- `D.batch n` is one stage: its two sides are the compositions scan | filter | map | map, of local
and of plain operators, so duality is composed inside the stage and not along a list of stages -/
theorem dual_batch (n : Nat) : (D.batch n).Dual :=
  ⟨⟨startOK_comp _ _ (startOK_comp _ _ (startOK_comp _ _ (primSim_startOK _ _ (scanSim _ _ _ _))
      (primSim_startOK _ _ (filterSim _ _))) (primSim_startOK _ _ (mapSim _))) (primSim_startOK _ _ (mapSim _)),
    (((C01_stage_scan _ _ _ _).comp (C01_stage_filter _ _)).comp (C01_stage_map _)).comp (C01_stage_map _)⟩, trivial⟩

/-- **the dual-mode operators of the property's list**, as the code defines them (Derived.lean):
each is a dual stage or a dual pipeline, for every user function and parameter -/
theorem C01_builders :
    (∀ f, (D.map f).Dual) ∧ (∀ p, (D.filter p).Dual) ∧ D.flatMap.Dual ∧
    (∀ g seed r term, (D.scan g seed r term).Dual) ∧ D.first.Dual ∧ D.last.Dual ∧ (∀ n, (D.take n).Dual) ∧
    (∀ p, (D.assertS p).Dual) ∧ (∀ p, (D.assert1 p).Dual) ∧ D.toList.Dual ∧
    (∀ r, (D.count r).Dual) ∧ (∀ key r, (D.sum key r).Dual) ∧ (∀ m key r, (D.minmax m key r).Dual) ∧
    D.identity.Dual ∧ (∀ lo hi, (D.clip lo hi).Dual) ∧ (∀ x, (D.fillNone x).Dual) ∧
    (∀ key r, (D.mean key r).Dual) ∧ (∀ key r, (D.variance key r).Dual) ∧ (∀ key r, (D.stddev key r).Dual) ∧
    (∀ key r, (D.fvariance key r).Dual) ∧ (∀ key r, (D.fstddev key r).Dual) ∧
    (∀ n, (D.batch n).Dual) ∧ (∀ key, (D.duc key).Dual) := by
  have hvar : ∀ key r, (D.variance key r).Dual := fun _ _ => ⟨dual_scan _ _ _ _, dual_map _, trivial⟩
  have hfvar : ∀ key r, (D.fvariance key r).Dual := fun _ _ => ⟨dual_scan _ _ _ _, dual_map _, trivial⟩
  have hsqrt : (Pipe.ofList [D.sqrtMap]).Dual := ⟨dual_map _, trivial⟩
  exact ⟨dual_map, dual_filter, dual_of_sim (flatMapSim _), dual_scan, dual_of_sim firstSim, dual_of_sim lastSim,
    fun n => dual_of_sim (takeSim n), fun _ => dual_of_sim (assertSim _ _), fun p => dual_of_sim (assert1Sim p _),
    dual_of_sim toListSim, fun _ => dual_scan _ _ _ _, fun _ _ => dual_scan _ _ _ _, fun _ _ _ => dual_scan _ _ _ _,
    dual_map _, fun _ _ => dual_map _, fun _ => dual_map _,
    fun _ _ => ⟨dual_scan _ _ _ _, dual_map _, trivial⟩, hvar,
    fun key r => Pipe.dual_append _ _ (hvar key r) hsqrt, hfvar,
    fun key r => Pipe.dual_append _ _ (hfvar key r) hsqrt, dual_batch,
    fun _ => ⟨dual_scan _ _ _ _, dual_filter _, dual_map _, trivial⟩⟩

/-- non-vacuity of `Pipe.Dual`: filter | take 2 | last, with early completion in the middle -/
example : (Pipe.ofList [D.filter (fun v => .ok v), D.take 2, D.last]).Dual :=
  ⟨dual_filter _, dual_of_sim (takeSim 2), dual_of_sim lastSim, trivial⟩

/-- an interleaved well-formed trace with a reused slot index; `hk` of `C01_transparent` holds in it for
`k = [1, 0]` (`xs = [5]`), not for `[3, 0]`, which has two lifetimes -/
example : WF ([.create [3, 0], .create [1, 0], .next [3, 0] (.int 1), .next [1, 0] (.int 5), .done [3, 0],
    .create [3, 0], .done [1, 0], .done [3, 0]] : List (Ev Val)) := by unfold WF; decide

end Rx
