import RxModel.Numeric
import Mathlib.Tactic.Ring
import Mathlib.Tactic.Linarith
import Mathlib.Algebra.Order.Ring.Abs
import Mathlib.Algebra.Order.BigOperators.Group.List
/-!
# C12 — math aggregates: exact statistics over ℚ, stream = reduce, and a rounding bound for `sum`

`RxModel/Numeric.lean` defines the accumulators of rxsci.math generically over the carrier; here they are
instantiated at `ℚ`, where arithmetic is exact, and shown to compute the mathematical statistics for every
input.  They are tied to the source by Props/LinkC12Exact.lean: the kernels generated from rxsci/math/*.py,
run on exact numbers, compute these definitions at `ℚ`, and the `Exact_*` theorems there conclude with the
theorems here.  (What the driver executes at `Float`, compared bit for bit with CPython, are the `Val`
versions of Derived.lean, which Props/LinkC12.lean identifies with the generated kernels at `Val`.)
The floating-point forward-error bound is proved for `sum` in the standard model
`fl(a + b) = (a + b)(1 + δ)`, `|δ| ≤ u`; for the variance family it is NOT proved (testing only).
This is the one module that imports Mathlib; Props/LinkC12Exact.lean sees it through this one, the
rest of the development is core Lean.
-/
namespace Rx

def sumsq (xs : List ℚ) : ℚ := (xs.map (fun x => x * x)).sum

/-- `sum` (streaming or reduce) computes the exact sum -/
theorem C12_sum (xs : List ℚ) : sumK xs = xs.sum := List.sum_eq_foldl.symm

/-- `mean` computes sum / count -/
theorem C12_mean (xs : List ℚ) : meanK xs = xs.sum / xs.length :=
  congrArg (· / (xs.length : ℚ)) (C12_sum xs)

/-- what Welford's state is after the items `xs` -/
def WInv (st : WSt ℚ) (xs : List ℚ) : Prop :=
  st.m * xs.length = xs.sum ∧ st.s = sumsq xs - xs.length * st.m * st.m ∧ st.k = xs.length

theorem WInv.step {st : WSt ℚ} {xs : List ℚ} (h : WInv st xs) (x : ℚ) : WInv (wstep (some st) x) (xs ++ [x]) := by
  obtain ⟨m, s, _⟩ := st
  obtain ⟨hm, hs, rfl⟩ := h
  dsimp only at hm hs
  have h1 : ((xs.length : ℚ) + 1) ≠ 0 := by positivity
  -- `q` is the step of the mean; in terms of `q` there is no division left
  obtain ⟨q, rfl⟩ : ∃ q, x = m + q * ((xs.length : ℚ) + 1) :=
    ⟨(x - m) / (xs.length + 1), by rw [div_mul_cancel₀ _ h1]; ring⟩
  simp only [WInv, wstep, List.length_append, List.length_singleton, List.sum_append,
    List.sum_singleton, sumsq, List.map_append, List.map_singleton, and_true]
  push_cast
  rw [add_sub_cancel_left, mul_div_cancel_right₀ _ h1]
  refine ⟨by rw [← hm]; ring, ?_⟩
  subst hs
  simp only [sumsq]
  ring

set_option linter.unusedVariables false in
/-- `WInv.step` with the invariant written out; `hk` is not used -/
theorem wstep_inv (xs : List ℚ) (x : ℚ) (m s : ℚ) (hk : xs ≠ [])
    (hm : m * xs.length = xs.sum) (hs : s = sumsq xs - xs.length * m * m) :
    let r := wstep (some ⟨m, s, xs.length⟩) x
    r.m * ((xs ++ [x]).length : ℚ) = (xs ++ [x]).sum ∧
    r.s = sumsq (xs ++ [x]) - ((xs ++ [x]).length : ℚ) * r.m * r.m ∧ r.k = (xs ++ [x]).length :=
  WInv.step (st := ⟨m, s, xs.length⟩) ⟨hm, hs, rfl⟩ x

/-- over ℚ the count may be cast before the subtraction, as `variance.py` subtracts -/
theorem wvar_some (st : WSt ℚ) : wvar (some st) = if st.k < 2 then 0 else st.s / ((st.k : ℚ) - 1) := by
  by_cases h : st.k < 2
  · exact (if_pos h).trans (if_pos h).symm
  · rw [if_neg h, ← Nat.cast_pred (Nat.lt_of_lt_of_le Nat.zero_lt_two (Nat.le_of_not_lt h))]
    exact if_neg h

theorem wfold_inv : ∀ (ys xs : List ℚ) (st : WSt ℚ), WInv st xs →
    ∃ st', wfold (some st) ys = some st' ∧ WInv st' (xs ++ ys)
  | [], xs, st, h => ⟨st, rfl, by rwa [List.append_nil]⟩
  | y :: ys, xs, st, h => by
    have := wfold_inv ys (xs ++ [y]) _ (h.step y)
    rwa [List.append_assoc] at this

/-- **variance** (sample, n−1): for every sequence the Welford accumulator of rxsci.math.variance
yields `(Σx² − n·mean²)/(n−1)` — i.e. `Σ(x−mean)²/(n−1)`, see `sum_sq_dev` — for `n ≥ 2` and `0` for
fewer than two items -/
theorem C12_variance (xs : List ℚ) :
    wvar (wfold none xs) =
      if xs.length < 2 then 0
      else (sumsq xs - xs.length * (xs.sum / xs.length) * (xs.sum / xs.length)) / ((xs.length : ℚ) - 1) := by
  cases xs with
  | nil => rfl
  | cons x ys =>
    obtain ⟨⟨m', s', k'⟩, hw, hm, hs, hk⟩ :=
      wfold_inv ys [x] ⟨x, 0, 1⟩ ⟨by simp, by simp [sumsq], rfl⟩
    have hn : ((x :: ys).length : ℚ) ≠ 0 := Nat.cast_ne_zero.mpr (Nat.succ_ne_zero _)
    dsimp only [List.singleton_append] at hm hs hk
    subst hs hk
    obtain rfl : m' = (x :: ys).sum / (x :: ys).length := eq_div_of_mul_eq hn hm
    rw [show wfold none (x :: ys) = _ from hw, wvar_some]

/-- the sum of squared deviations from the mean, in the two forms used above -/
theorem sum_sq_dev (xs : List ℚ) (hn : xs ≠ []) :
    (xs.map (fun x => (x - xs.sum / xs.length) * (x - xs.sum / xs.length))).sum =
      sumsq xs - xs.length * (xs.sum / xs.length) * (xs.sum / xs.length) := by
  have hlen : (xs.length : ℚ) ≠ 0 := Nat.cast_ne_zero.mpr (List.length_pos_of_ne_nil hn).ne'
  have key : ∀ (c : ℚ) (ys : List ℚ),
      (ys.map (fun x => (x - c) * (x - c))).sum = sumsq ys - 2 * c * ys.sum + ys.length * c * c := by
    intro c ys
    induction ys with
    | nil => simp [sumsq]
    | cons y ys ih =>
      simp only [List.map_cons, List.sum_cons, ih, sumsq, List.length_cons]
      push_cast
      ring
  -- about the mean `c`, where `Σx = c·n`, the middle term is `−2·n·c²`
  obtain ⟨c, hc⟩ : ∃ c, xs.sum = c * xs.length := ⟨_, (div_mul_cancel₀ _ hlen).symm⟩
  rw [key, hc, mul_div_cancel_right₀ _ hlen]
  ring

/-- **formal.variance** (population): the mean of the squared deviations from the mean; 0 for no item -/
theorem C12_formal (xs : List ℚ) :
    fvarK xs = if xs.length = 0 then 0
      else (xs.map (fun x => (x - xs.sum / xs.length) * (x - xs.sum / xs.length))).sum / xs.length := by
  unfold fvarK moment2K
  split
  · rfl
  · simp [C12_sum, C12_mean]

/-- **stream = reduce**: the last streamed variance is the variance of the whole sequence -/
theorem C12_stream_eq_reduce {K : Type} [Add K] [Sub K] [Mul K] [Div K] [NatCast K] [OfNat K 0] :
    ∀ (xs : List K) (st : Option (WSt K)), xs ≠ [] →
      (variances st xs).getLast? = some (wvar (wfold st xs)) := by
  intro xs
  induction xs with
  | nil => intro st h; exact absurd rfl h
  | cons x xs ih =>
    intro st _
    cases xs with
    | nil => rfl
    | cons y ys => exact List.getLast?_cons_cons.trans (ih (some (wstep st x)) (List.cons_ne_nil y ys))

/-- floating-point summation with one rounding error `δ_i` per addition: `fl(a+b) = (a+b)(1+δ_i)`.
It is `sumK`'s left fold with the factor `1 + δ_i` after each addition: from `acc = 0` and with every
`δ_i = 0` it is `sumK` of the first components. -/
def fsum : ℚ → List (ℚ × ℚ) → ℚ
  | acc, [] => acc
  | acc, (x, d) :: r => fsum ((acc + x) * (1 + d)) r

theorem fl_add_err {u : ℚ} (acc e x d : ℚ) (hd : |d| ≤ u) :
    |(acc + x) * (1 + d) - (e + x)| ≤ |acc - e| * (1 + u) + (|e| + |x|) * u := by
  have a1 : |1 + d| ≤ 1 + u := (abs_add_le _ _).trans (by rw [abs_one]; exact add_le_add le_rfl hd)
  calc |(acc + x) * (1 + d) - (e + x)|
      = |(acc - e) * (1 + d) + (e + x) * d| := congrArg _ (by ring)
    _ ≤ |acc - e| * |1 + d| + |e + x| * |d| := (abs_add_le _ _).trans (by rw [abs_mul, abs_mul])
    _ ≤ |acc - e| * (1 + u) + (|e| + |x|) * u :=
        add_le_add (mul_le_mul_of_nonneg_left a1 (abs_nonneg _))
          (mul_le_mul (abs_add_le _ _) hd (abs_nonneg _) (add_nonneg (abs_nonneg _) (abs_nonneg _)))

/-- `|fl-sum − exact sum| ≤ ((1+u)^n − 1) · Σ|x_i|` for all inputs and all rounding errors `|δ_i| ≤ u`
(the bound is proportional to machine epsilon, the item count and the conditioning `Σ|x| / |Σx|`) -/
theorem C12_sum_rounding (u : ℚ) (hu : 0 ≤ u) :
    ∀ (xs : List (ℚ × ℚ)) (acc e : ℚ), (∀ p ∈ xs, |p.2| ≤ u) →
      |fsum acc xs - (e + (xs.map (·.1)).sum)| ≤
        |acc - e| * (1 + u) ^ xs.length + ((1 + u) ^ xs.length - 1) * (|e| + (xs.map (fun p => |p.1|)).sum) := by
  intro xs
  induction xs with
  | nil => intro acc e _; simp [fsum]
  | cons p xs ih =>
    intro acc e hd
    obtain ⟨x, d⟩ := p
    have h1 := fl_add_err acc e x d (hd (x, d) (by simp))
    have hp1 : (1 : ℚ) ≤ (1 + u) ^ xs.length := one_le_pow₀ (le_add_of_nonneg_right hu)
    have hS : 0 ≤ (xs.map (fun p => |p.1|)).sum :=
      List.sum_nonneg fun a ha => by
        obtain ⟨q, _, rfl⟩ := List.mem_map.mp ha
        exact abs_nonneg _
    simp only [fsum, List.map_cons, List.sum_cons, List.length_cons]
    rw [← add_assoc e x]
    refine (ih ((acc + x) * (1 + d)) (e + x) fun q hq => hd q (by simp [hq])).trans ?_
    -- with P = (1+u)^n and S = Σ|xᵢ|: the step bound and `|e + x| ≤ |e| + |x|`; what is left over
    -- against the claim is `u·P·S ≥ 0`
    calc _ ≤ (|acc - e| * (1 + u) + (|e| + |x|) * u) * (1 + u) ^ xs.length
            + ((1 + u) ^ xs.length - 1) * (|e| + |x| + (xs.map (fun p => |p.1|)).sum) :=
          add_le_add (mul_le_mul_of_nonneg_right h1 (zero_le_one.trans hp1))
            (mul_le_mul_of_nonneg_left (add_le_add (abs_add_le e x) le_rfl) (sub_nonneg.mpr hp1))
      _ = |acc - e| * (1 + u) ^ (xs.length + 1) + ((1 + u) ^ (xs.length + 1) - 1) * (|e| + (|x| + (xs.map (fun p => |p.1|)).sum))
            - u * (1 + u) ^ xs.length * (xs.map (fun p => |p.1|)).sum := by ring
      _ ≤ _ := sub_le_self _ (mul_nonneg (mul_nonneg hu (zero_le_one.trans hp1)) hS)

/-- Welford on 1, 2, 4: mean `7/3`, squared deviations `14/3`, over `n − 1 = 2` -/
example : wvar (wfold none [(1 : ℚ), 2, 4]) = 7 / 3 := by simp only [wfold, wstep, wvar]; norm_num

end Rx
