import RxModel.Val
import RxModel.Event
/-!
# MemoryStore (rxsci/state/memory_store.py): L0, the concrete arrays

`values` / `state` / `keys` are parallel arrays indexed by `key[0]`; `state` holds the markers
NOTSET = 0, SET = 1, CLEARED = 2.  Typed stores (`int` → array('q'), `'uint'` → 'Q', `float` → 'd',
`bool` → 'B') coerce or reject what is written; a rejected write raises and leaves the store as it
was (the assignment to `values` precedes the assignments to `state` and `keys`).
-/
namespace Rx

inductive Marker where
  | notset | set | cleared
  deriving DecidableEq, Repr

inductive DType where
  | int | uint | float | bool | obj | mapper
  deriving DecidableEq, Repr

/-- the "zero" a freshly grown / deleted slot holds (`values.append(0)`, `values[i] = 0`) -/
def DType.zero : DType → Val
  | .float => Val.flt 0.0
  | _ => .int 0

/-- what the typed array does with an assigned value: the stored value, or the Python exception -/
def DType.coerce : DType → Val → Except Err Val
  | .int, .int i => if -(2 ^ 63 : Int) ≤ i ∧ i < 2 ^ 63 then .ok (.int i) else .error "OverflowError"
  | .int, .bool b => .ok (.int (if b then 1 else 0))
  | .int, _ => .error "TypeError"
  | .uint, .int i => if 0 ≤ i ∧ i < 2 ^ 64 then .ok (.int i) else .error "OverflowError"
  | .uint, .bool b => .ok (.int (if b then 1 else 0))
  | .uint, _ => .error "TypeError"
  | .float, .int i => .ok (Val.flt (Float.ofInt i))
  | .float, .bool b => .ok (Val.flt (if b then 1.0 else 0.0))
  | .float, .float f => .ok (.float f)
  | .float, _ => .error "TypeError"
  | .bool, .int i => if 0 ≤ i ∧ i < 256 then .ok (.int i) else .error "OverflowError"
  | .bool, .bool b => .ok (.int (if b then 1 else 0))
  | .bool, _ => .error "TypeError"
  | .obj, v => .ok v
  | .mapper, v => .ok v

/-- `get` post-processing: `bool(value)` for bool stores -/
def DType.read : DType → Val → Val
  | .bool, v => .bool v.truthy
  | _, v => v

structure MemStore where
  dtype : DType
  default : Option Val
  values : List Val
  state : List Marker
  keys : List (Option Key)
  /-- mapper stores: `values[i]` is a dict map_key → index, kept as an insertion-ordered association list -/
  maps : List (List (Val × Nat))
  nextIndex : Nat

def MemStore.new (dt : DType) (default : Option Val) : MemStore := ⟨dt, default, [], [], [], [], 0⟩

/-- result of a store operation: a value, a marker, or a Python exception -/
inductive SRes where
  | unit
  | val (v : Val)
  | notset
  | bool (b : Bool)
  | idx (i : Nat)
  | exc (e : Err)
  | dump (l : List (Option Key × Val × Bool))
  | keysOf (l : List Val)
  deriving DecidableEq

def listSet {α} (l : List α) (i : Nat) (v : α) : List α := l.set i v

/-- `set(key, value)` (repaired): the (possibly failing) typed write first, then keys and marker; a value the declared
type rejects raises and changes nothing -/
def MemStore.set (s : MemStore) (k : Key) (v : Val) : MemStore × SRes :=
  let i := k.idx
  if i < s.state.length then
    match s.dtype.coerce v with
    | .ok w => ({ s with keys := s.keys.set i (some k), state := s.state.set i .set, values := s.values.set i w }, .unit)
    | .error e => (s, .exc e)
  else (s, .exc "IndexError")

def MemStore.addKey (s : MemStore) (k : Key) : MemStore × SRes :=
  let i := k.idx
  let grow := (i + 1) - s.state.length
  let s1 := { s with
    values := s.values ++ List.replicate grow s.dtype.zero,
    state := s.state ++ List.replicate grow Marker.cleared,
    keys := s.keys ++ List.replicate grow none,
    maps := s.maps ++ List.replicate grow [] }
  let s2 := { s1 with state := s1.state.set i .notset, keys := s1.keys.set i (some k) }
  if s.dtype = .mapper then
    -- `self.set(key, {})`
    ({ s2 with state := s2.state.set i .set, maps := s2.maps.set i [] }, .unit)
  else
    match s.default with
    | some d => s2.set k d
    | none => (s2, .unit)

def MemStore.delKey (s : MemStore) (k : Key) : MemStore × SRes :=
  let i := k.idx
  if i < s.state.length then
    ({ s with state := s.state.set i .cleared, keys := s.keys.set i none,
              values := s.values.set i s.dtype.zero, maps := s.maps.set i [] }, .unit)
  else (s, .exc "IndexError")

def MemStore.get (s : MemStore) (k : Key) : SRes :=
  let i := k.idx
  match s.state[i]? with
  | none => .exc "IndexError"
  | some .notset => .notset
  | some _ => .val (s.dtype.read (s.values.getD i s.dtype.zero))

def MemStore.isSet (s : MemStore) (k : Key) : SRes :=
  match s.state[k.idx]? with
  | none => .exc "IndexError"
  | some m => .bool (m = .set)

def MemStore.isCleared (s : MemStore) (k : Key) : SRes :=
  match s.state[k.idx]? with
  | none => .exc "IndexError"
  | some m => .bool (m = .cleared)

/-- `iterate()`: (key, raw value, is_set) of every slot that is not CLEARED -/
def MemStore.iterate (s : MemStore) : SRes :=
  .dump ((List.range s.keys.length).filterMap fun i =>
    match s.state[i]? with
    | some Marker.cleared => none
    | some m => some (s.keys.getD i none, s.values.getD i (.int 0), decide (m = Marker.set))
    | none => none)

/-! mapper operations (`group_by`'s key → index dictionary) -/

def MemStore.getMap (s : MemStore) (k : Key) (mk : Val) : SRes :=
  match s.maps[k.idx]? with
  | none => .exc "IndexError"
  | some m => match m.find? (fun p => p.1 = mk) with
    | some p => .idx p.2
    | none => .notset

def MemStore.addMap (s : MemStore) (k : Key) (mk : Val) : MemStore × SRes :=
  let i := k.idx
  match s.maps[i]? with
  | none => (s, .exc "IndexError")
  | some m =>
    let idx := s.nextIndex           -- free_slots is never filled: always the fresh branch of new_index
    let m' := if m.any (fun p => p.1 = mk) then m.map (fun p => if p.1 = mk then (mk, idx) else p) else m ++ [(mk, idx)]
    ({ s with maps := s.maps.set i m', nextIndex := idx + 1 }, .idx idx)

def MemStore.iterateMap (s : MemStore) (k : Key) : SRes :=
  match s.maps[k.idx]? with
  | none => .exc "IndexError"
  | some m => .keysOf (m.map (·.1))

/-! ## operations as data (line protocol, histories) -/

inductive SOp where
  | addKey (k : Key) | delKey (k : Key) | set (k : Key) (v : Val) | get (k : Key)
  | isSet (k : Key) | isCleared (k : Key) | iterate
  | addMap (k : Key) (mk : Val) | getMap (k : Key) (mk : Val) | iterateMap (k : Key)

def MemStore.apply (s : MemStore) : SOp → MemStore × SRes
  | .addKey k => s.addKey k
  | .delKey k => s.delKey k
  | .set k v => s.set k v
  | .get k => (s, s.get k)
  | .isSet k => (s, s.isSet k)
  | .isCleared k => (s, s.isCleared k)
  | .iterate => (s, s.iterate)
  | .addMap k g => s.addMap k g
  | .getMap k g => (s, s.getMap k g)
  | .iterateMap k => (s, s.iterateMap k)

def MemStore.run (s : MemStore) : List SOp → List SRes
  | [] => []
  | o :: os => let r := s.apply o; r.2 :: MemStore.run r.1 os

end Rx
