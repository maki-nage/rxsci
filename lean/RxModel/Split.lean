import RxModel.Ops
/-!
# Splitting operators (L1): group_by, roll (ring and tumbling), split, time_split

Each splitter is the `on_next` handler of the corresponding `*_mux` function, written branch for
branch, over an index-addressed state (`Nat → …`, the store arrays).  A step returns the events sent
to the inner pipeline (`observer.on_next`) and the events sent around it (`outer_observer.on_next`).
`wrap` composes a splitter with an arbitrary inner mux operator and `demux_mux_observable`.
-/
namespace Rx

/-- events that travel around the inner pipeline (`outer_observer`): they never carry an item -/
inductive OEv where
  | create (k : Key)
  | done (k : Key)
  | err (k : Key) (e : Err)
  | fatal (e : Err)
  deriving Repr, DecidableEq

def OEv.toEv {β} : OEv → Ev β
  | .create k => .create k
  | .done k => .done k
  | .err k e => .err k e
  | .fatal e => .fatal e

structure Splitter (α : Type) where
  S : Type
  init : S
  step : S → Ev α → S × List (Ev α) × List OEv

/-- inner key of the sequential splitters: `(key[0], key)` -/
def ik (k : Key) : Key := k.idx :: k

/-! ## split (rxsci/data/split.py) -/

/-- slot: `none` = no key / cleared; `some none` = NOTSET; `some (some c)` = current predicate -/
abbrev SpSt (κ : Type) := Nat → Option (Option κ)

def splitStep {α κ} [DecidableEq κ] (p : α → κ) (st : SpSt κ) : Ev α → SpSt κ × List (Ev α) × List OEv
  | .create k => (upd st k.idx (some none), [], [.create k])
  | .next k x =>
    match st k.idx with
    | some none => (upd st k.idx (some (some (p x))), [.create (ik k), .next (ik k) x], [])
    | some (some c) =>
      if p x ≠ c then (upd st k.idx (some (some (p x))), [.done (ik k), .create (ik k), .next (ik k) x], [])
      else (st, [.next (ik k) x], [])
    | none => (st, [], [])
  | .done k =>
    -- no del_key in the code: the slot keeps its value until the next add_key
    match st k.idx with
    | some (some _) => (st, [.done (ik k)], [.done k])
    | _ => (st, [], [.done k])
  | .err k e =>
    match st k.idx with
    | some (some _) => (st, [.err (ik k) e], [.err k e])
    | _ => (st, [], [.err k e])
  | .fatal e => (st, [.fatal e], [])

def splitSp {α κ} [DecidableEq κ] (p : α → κ) : Splitter α := ⟨SpSt κ, fun _ => none, splitStep p⟩

/-! ## time_split (rxsci/data/time_split.py); timestamps and timeouts are integers -/

structure TsCfg (α : Type) where
  time : α → Int
  active : Option Int
  inactive : Option Int
  closing : Option (α → Bool)
  incl : Bool

/-- `closing_mapper is not None and closing_mapper(item) is True` -/
def TsCfg.closes {α} (c : TsCfg α) (x : α) : Bool :=
  match c.closing with | some f => f x | none => false

def tsExpired {α} (c : TsCfg α) (start last new : Int) : Bool :=
  (match c.active with | some a => decide (new ≥ start + a) | none => false) ||
  (match c.inactive with | some b => decide (new ≥ last + b) | none => false)

/-- slot: `none` = no key; `some none` = NOTSET; `some (some (start, last))` -/
abbrev TsSt := Nat → Option (Option (Int × Int))

def tsStep {α} (c : TsCfg α) (st : TsSt) : Ev α → TsSt × List (Ev α) × List OEv
  | .create k => (upd st k.idx (some none), [], [.create k])
  | .next k x =>
    let t := c.time x
    match st k.idx with
    | none => (st, [], [])
    | some cur =>
      -- first item of the key: start = last = t, window created
      let (start, last, pre) := match cur with
        | none => (t, t, [Ev.create (ik k)])
        | some (s, l) => (s, l, [])
      if tsExpired c start last t then
        (upd st k.idx (some (some (t, t))), pre ++ [.done (ik k), .create (ik k), .next (ik k) x], [])
      else if c.closes x then
        if c.incl then
          (upd st k.idx (some (some (t, t))), pre ++ [.next (ik k) x, .done (ik k), .create (ik k)], [])
        else
          (upd st k.idx (some (some (t, t))), pre ++ [.done (ik k), .create (ik k), .next (ik k) x], [])
      else
        (upd st k.idx (some (some (start, t))), pre ++ [.next (ik k) x], [])
  | .done k =>
    match st k.idx with
    | some (some _) => (upd st k.idx none, [.done (ik k)], [.done k])
    | _ => (upd st k.idx none, [], [.done k])
  | .err k e =>
    match st k.idx with
    | some (some _) => (upd st k.idx none, [.err (ik k) e], [.err k e])
    | _ => (upd st k.idx none, [], [.err k e])
  | .fatal e => (st, [.fatal e], [])

def timeSplitSp {α} (c : TsCfg α) : Splitter α := ⟨TsSt, fun _ => none, tsStep c⟩

/-! ## roll, window = stride (rxsci/data/roll.py `_roll_count`) -/

def rollCountStep {α} (w : Nat) (st : Nat → Option Nat) : Ev α → (Nat → Option Nat) × List (Ev α) × List OEv
  | .create k => (upd st k.idx (some 0), [], [.create k])
  | .next k x =>
    match st k.idx with
    | none => (st, [], [])
    | some c =>
      let pre := if c = 0 then [Ev.create (ik k)] else []
      if c + 1 = w then (upd st k.idx (some 0), pre ++ [.next (ik k) x, .done (ik k)], [])
      else (upd st k.idx (some (c + 1)), pre ++ [.next (ik k) x], [])
  | .done k =>
    match st k.idx with
    | some c => (upd st k.idx none, if c > 0 then [.done (ik k)] else [], [.done k])
    | none => (st, [], [.done k])
  | .err k e =>
    match st k.idx with
    | some c => (upd st k.idx none, if c > 0 then [.err (ik k) e] else [], [.err k e])
    | none => (st, [], [.err k e])
  | .fatal e => (st, [.fatal e], [])

def rollCountSp {α} (w : Nat) : Splitter α := ⟨Nat → Option Nat, fun _ => none, rollCountStep w⟩

/-! ## roll, window ≠ stride (rxsci/data/roll.py `_roll`): item counter + ring of `density` slots -/

def density (w s : Nat) : Nat := w / s + (if w % s = 0 then 0 else 1)

/-- window key of ring slot `o` of parent `k`: `(k[0]*density + o, k)` -/
def wk (d : Nat) (k : Key) (o : Nat) : Key := (k.idx * d + o) :: k

structure RollSt where
  n : Nat → Option Nat          -- state_n: items seen by the key
  w : Nat → Option Nat          -- state_w: index of the first item of the window in that slot (none = -1)

/-- the `for offset in range(density)` loop of `on_next`: deliver the item to every open window,
close the ones that are full.  Returns the new slot array and the inner events. -/
def rollDeliver {α} (w d : Nat) (k : Key) (x : α) (n : Nat) :
    Nat → (Nat → Option Nat) → (Nat → Option Nat) × List (Ev α)
  | 0, ws => (ws, [])
  | o+1, ws =>
    -- offsets are visited in increasing order: process offset (d - (o+1)) first
    let off := d - (o + 1)
    let idx := k.idx * d + off
    match ws idx with
    | some n0 =>
      if n - n0 + 1 = w then
        let r := rollDeliver w d k x n o (upd ws idx none)
        (r.1, [Ev.next (wk d k off) x, Ev.done (wk d k off)] ++ r.2)
      else
        let r := rollDeliver w d k x n o ws
        (r.1, [Ev.next (wk d k off) x] ++ r.2)
    | none => rollDeliver w d k x n o ws

/-- the flush loop at completion/error of the parent: every open slot, oldest window first.
The open windows are consecutive (`j .. jmax`) and live in slots `j % d`, so walking the ring from
slot `(jmax + 1) % d` visits them in opening order (repaired code; the original walked offsets
`0 .. d-1`). -/
def rollFlush {α} (d : Nat) (k : Key) (mk : Key → Ev α) (first : Nat) :
    Nat → (Nat → Option Nat) → (Nat → Option Nat) × List (Ev α)
  | 0, ws => (ws, [])
  | o+1, ws =>
    let off := (first + (d - (o + 1))) % d
    let idx := k.idx * d + off
    match ws idx with
    | some _ =>
      let r := rollFlush d k mk first o (upd ws idx none)
      (r.1, mk (wk d k off) :: r.2)
    | none => rollFlush d k mk first o ws

def clearSlots (d : Nat) (k : Key) : Nat → (Nat → Option Nat) → (Nat → Option Nat)
  | 0, ws => ws
  | o+1, ws => clearSlots d k o (upd ws (k.idx * d + o) none)

def rollStep {α} (w s : Nat) (st : RollSt) : Ev α → RollSt × List (Ev α) × List OEv
  | .create k =>
    let d := density w s
    (⟨upd st.n k.idx (some 0), clearSlots d k d st.w⟩, [], [.create k])
  | .next k x =>
    let d := density w s
    match st.n k.idx with
    | none => (st, [], [])
    | some n =>
      let (ws1, pre) :=
        if n % s = 0 then
          let off := (n / s) % d
          (upd st.w (k.idx * d + off) (some n), [Ev.create (wk d k off)])
        else (st.w, [])
      let r := rollDeliver w d k x n d ws1
      (⟨upd st.n k.idx (some (n + 1)), r.1⟩, pre ++ r.2, [])
  | .done k =>
    let d := density w s
    let n := (st.n k.idx).getD 0
    let r := rollFlush d k (fun ki => Ev.done ki) (((n + s - 1) / s) % d) d st.w
    (⟨upd st.n k.idx (some 0), r.1⟩, r.2, [.done k])
  | .err k e =>
    let d := density w s
    let n := (st.n k.idx).getD 0
    let r := rollFlush d k (fun ki => Ev.err ki e) (((n + s - 1) / s) % d) d st.w
    (⟨upd st.n k.idx (some 0), r.1⟩, r.2, [.err k e])
  | .fatal e => (st, [.fatal e], [])

def rollRingSp {α} (w s : Nat) : Splitter α := ⟨RollSt, ⟨fun _ => none, fun _ => none⟩, rollStep w s⟩

/-- `roll_mux` picks the tumbling implementation when window = stride -/
def rollSp {α} (w s : Nat) : Splitter α := if w = s then rollCountSp w else rollRingSp w s

/-! ## group_by (rxsci/operators/group_by.py + the mapper store) -/

structure GbSt (κ : Type) where
  maps : Nat → Option (List (κ × Nat))     -- per parent slot: dict map_key → index, insertion order
  next : Nat                               -- `next_index` of the mapper store (free_slots is never filled)

def gbLookup {κ} [DecidableEq κ] (m : List (κ × Nat)) (g : κ) : Option Nat :=
  (m.find? (fun p => p.1 = g)).map (·.2)

def gbStep {α κ} [DecidableEq κ] (f : α → κ) (st : GbSt κ) : Ev α → GbSt κ × List (Ev α) × List OEv
  | .create k => (⟨upd st.maps k.idx (some []), st.next⟩, [], [.create k])
  | .next k x =>
    match st.maps k.idx with
    | none => (st, [], [])
    | some m =>
      match gbLookup m (f x) with
      | some i => (st, [.next (i :: k) x], [])
      | none =>
        let i := st.next
        (⟨upd st.maps k.idx (some (m ++ [(f x, i)])), st.next + 1⟩, [.create (i :: k), .next (i :: k) x], [])
  | .done k =>
    match st.maps k.idx with
    | some m => (⟨upd st.maps k.idx none, st.next⟩, m.map (fun p => Ev.done (p.2 :: k)), [.done k])
    | none => (st, [], [.done k])
  | .err k e =>
    match st.maps k.idx with
    | some m => (⟨upd st.maps k.idx none, st.next⟩, m.map (fun p => Ev.err (p.2 :: k) e), [.err k e])
    | none => (st, [], [.err k e])
  | .fatal e => (st, [.fatal e], [])

def groupBySp {α κ} [DecidableEq κ] (f : α → κ) : Splitter α := ⟨GbSt κ, ⟨fun _ => none, 0⟩, gbStep f⟩

/-! ## wrap: splitter ∘ inner pipeline ∘ demux_mux_observable -/

/-- rxsci/operators/multiplex.py `demux_mux_observable.on_next`: items go up one key level, an inner
`OnErrorMux` is `observer.on_error`, inner create/completion events are dropped -/
def demuxEv {β} : Ev β → List (Ev β)
  | .next (_ :: k) v => [.next k v]
  | .next [] _ => []
  | .err _ e => [.fatal e]
  | .fatal e => [.fatal e]
  | .create _ => []
  | .done _ => []

def demux {β} (l : List (Ev β)) : List (Ev β) := l.flatMap demuxEv

def wrap {α β} (sp : Splitter α) (Q : MuxOp α β) : MuxOp α β where
  S := sp.S × Q.S
  init := (sp.init, Q.init)
  step := fun st e =>
    let r := sp.step st.1 e
    let q := runGroup Q.step st.2 r.2.1
    ((r.1, q.1), demux q.2 ++ r.2.2.map OEv.toEv)

/-- events a splitter sends into its inner pipeline, over a whole input trace -/
def Splitter.innerTrace {α} (sp : Splitter α) : sp.S → List (Ev α) → List (Ev α)
  | _, [] => []
  | s, e :: es => let r := sp.step s e; r.2.1 ++ Splitter.innerTrace sp r.1 es

end Rx
