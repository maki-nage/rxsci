import RxModel.Event
/-!
# The operations of Python values that rxsci's pure kernels use, as an interface

`harness/pygen.py` translates the small pure functions of the source (accumulators, terminators,
predicates and the lambdas of derived operators) into Lean definitions that are *generic in the value
algebra* `V` (tagless-final style): the same generated definition is

* instantiated at `Val` (RxModel/PyVal.lean), where it is proved equal to the hand-written model the
  driver executes (`Props/Link*.lean`), and
* instantiated at `NVal` (RxModel/NVal.lean), exact arithmetic over the rationals, where the numeric
  theorems of C12 are proved about the generated code itself.

Every operation that can raise in Python returns `Except Err _`.
-/
namespace Rx

class PyAlg (V : Type) where
  none : V
  bool : Bool → V
  int : Int → V
  /-- a float literal, given exactly as the fraction `n / d` (every float literal is a dyadic rational) -/
  flit : Int → Nat → V
  tup : List V → V
  lst : List V → V
  /-- `v[i]` for a literal index `i` -/
  nth : V → Nat → V
  isNone : V → Bool
  /-- `v is True` -/
  isTrue : V → Bool
  /-- `v is False` -/
  isFalse : V → Bool
  truthy : V → Bool
  /-- `a == b` -/
  eq : V → V → Bool
  add : V → V → Except Err V
  sub : V → V → Except Err V
  mul : V → V → Except Err V
  div : V → V → Except Err V
  pow : V → V → Except Err V
  /-- `a % b` and `a // b` (floor semantics) -/
  mod : V → V → Except Err V
  floordiv : V → V → Except Err V
  /-- `range(n)` -/
  range : V → Except Err (List V)
  /-- an int used as an index / key component -/
  toNat : V → Except Err Nat
  lt : V → V → Except Err Bool
  le : V → V → Except Err Bool
  len : V → Except Err V
  /-- what `for x in v` iterates over -/
  elems : V → Except Err (List V)
  /-- the list `v` after `v.append(x)` -/
  append : V → V → Except Err V
  /-- builtin `sum(v)` -/
  sum : V → Except Err V
  /-- `math.sqrt(v)` -/
  sqrt : V → Except Err V

/-- one stage of an operator that rxsci defines as `rx.pipe(scan(...), filter(...), map(...))` -/
inductive GStage (V : Type) where
  | scan (acc : V → V → Except Err V) (seed : V) (reduce : Bool) (term : Option (V → Except Err V))
  | map (f : V → Except Err V)
  | filter (p : V → Except Err V)

end Rx
